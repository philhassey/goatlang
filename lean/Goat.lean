-- Root of the `Goat` library: everything the checks build.
import Goat.Gen.Types
import Goat.Gen.Tables
import Goat.Model.Pratt
import Goat.Model.PrattGen
import Goat.Spec.GoPrec
import Goat.Lemmas.Pratt
import Goat.Props.C05
import Goat.Model.Num
import Goat.Props.C04
import Goat.Model.OMap
import Goat.Model.Tuple
import Goat.Lemmas.OMap
import Goat.Props.C10
import Goat.Model.Load
import Goat.Props.C15
import Goat.Model.TreeSort
import Goat.Props.C16
import Goat.Model.Scope
import Goat.Props.C08
import Goat.Model.Peephole
import Goat.Model.VMCore
import Goat.Lemmas.Peephole
import Goat.Props.C02
import Goat.Model.Check
import Goat.Props.C07
import Goat.Model.IntMap
import Goat.Model.Struct
import Goat.Props.C12
import Goat.Model.CF
import Goat.Spec.CF
import Goat.Lemmas.CF
import Goat.Props.C06
import Goat.Model.Call
import Goat.Lemmas.Protocol
import Goat.Props.C09
import Goat.Model.Slice
import Goat.Props.C11
import Goat.Model.Str
import Goat.Props.C13
import Goat.Model.Print
import Goat.Props.C14
import Goat.Model.Reload
import Goat.Props.C17
import Goat.Model.Incr
import Goat.Props.C18
import Goat.Model.Host
import Goat.Props.C19
import Goat.Model.Backtrace
import Goat.Props.C20
import Goat.Model.MiniGo
import Goat.Props.C01
