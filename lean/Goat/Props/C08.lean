import Goat.Model.Scope
import Goat.Lemmas.Resolve
/-!
# C08 — names resolve by Go's lexical block scoping

The symbol table keeps, for a name `x`, the chain `x ↦ s₀, ~x ↦ s₁, ~~x ↦ s₂, …` of the slots of
the bindings of `x` that are currently in scope, innermost first. The first half of this file is
about that chain, read off the table as a list (`Lvls`, `chain_iff`), for **every** chain length
(every nesting depth): `shadow` moves the list one level out and frees level 0, `unshadow` moves it
one level in **leaving no `~` entry behind** (false of the code before the repair of `unshadow`; the
suite's depth-1 shapes cannot see it), neither touches another name, and a declaration that shadows
followed by the close of its slot is the identity on the whole table (`shadow_unshadow_id`).

Second half — the full statement: `scope_refines`. A specification machine keeps a stack of frames
(name ↦ slot per block) and a slot counter; the relation `Rel` says that for every name the table's
chain is exactly the list of `x`'s slots in the frames, innermost first, that `indexToKey` marks
exactly the live slots, and that the scope marks delimit the frames' slot ranges. Every operation
preserves it (`end_rel` through `drop_abs`, the induction over `Drop`'s loop, newest slot first,
dead slots of already closed inner blocks skipped), so after **every** history each declaration
returned the same slot in both machines and every name resolves by Go's rule: the innermost
enclosing block that declares it.

What remains outside: *which* statements open blocks and declare names (the compiler's calls of
Begin / Shadow / End: for, range, if, switch, function bodies) is compared with Go itself by the
scoping generator.
-/
namespace Goat.Props.C08
open Goat.Scope

theorem get_put (t : Tbl) (k k' : Key) (n : Nat) :
    (t.put k n).get k' = if k' = k then some n else t.get k' := by
  unfold Tbl.put Tbl.get
  rw [Std.HashMap.getElem?_insert]
  simp only [beq_iff_eq, @eq_comm _ k k']

theorem get_del (t : Tbl) (k k' : Key) :
    (t.del k).get k' = if k' = k then none else t.get k' := by
  unfold Tbl.del Tbl.get
  rw [Std.HashMap.getElem?_erase]
  simp only [beq_iff_eq, @eq_comm _ k k']

/-- the chain of `x` from level `k` on is contiguous and shorter than `fuel` -/
structure Chain (t : Tbl) (x : String) (k fuel : Nat) : Prop where
  short : ∀ j, (t.get (k + j, x)).isSome → j < fuel
  contig : ∀ j, (t.get (k + j + 1, x)).isSome → (t.get (k + j, x)).isSome

/-- from level `k` on, the entries of `x` in the table are the list `c` -/
def Lvls (t : Tbl) (x : String) (k : Nat) (c : List Nat) : Prop := ∀ j, t.get (j + k, x) = c[j]?

section
variable {t t' : Tbl} {x : String} {k n : Nat} {c : List Nat}

theorem lvl_ne {i j : Nat} {x y : String} (h : i ≠ j) : ((i, x) : Key) ≠ (j, y) :=
  fun e => h (Prod.mk.inj e).1

theorem off_ne {key : Key} {i : Nat} (hk : key.2 ≠ x ∨ key.1 < k) (hi : k ≤ i) : key ≠ (i, x) := by
  rintro rfl
  exact hk.elim (fun h => h rfl) (Nat.not_lt.mpr hi)

theorem shadowT_none (fuel : Nat) (h0 : t.get (k, x) = none) : shadowT fuel k x t = t := by
  cases fuel with
  | zero => rfl
  | succ f => rw [shadowT, h0]

theorem shadowT_some (fuel : Nat) (h0 : t.get (k, x) = some n) :
    shadowT (fuel + 1) k x t = ((shadowT fuel (k + 1) x t).put (k + 1, x) n).del (k, x) := by
  rw [shadowT, h0]

theorem unshadowT_none (fuel : Nat) (h1 : t.get (k + 1, x) = none) : unshadowT fuel k x t = t := by
  cases fuel with
  | zero => rfl
  | succ f => rw [unshadowT, h1]

theorem unshadowT_some (fuel : Nat) (h1 : t.get (k + 1, x) = some n) :
    unshadowT (fuel + 1) k x t = unshadowT fuel (k + 1) x ((t.put (k, x) n).del (k + 1, x)) := by
  rw [unshadowT, h1]

theorem get_del_put {a b key : Key} (h1 : key ≠ b) (h2 : key ≠ a) :
    ((t.put a n).del b).get key = t.get key := by
  rw [get_del, if_neg h1, get_put, if_neg h2]

theorem lvls_succ : Lvls t x k c ↔ t.get (k, x) = c.head? ∧ Lvls t x (k + 1) c.tail := by
  constructor
  · intro h
    exact ⟨by rw [List.head?_eq_getElem?, ← h 0, Nat.zero_add],
      fun j => by rw [← Nat.add_assoc, Nat.add_right_comm, List.getElem?_tail]; exact h (j + 1)⟩
  · intro ⟨h0, h⟩ j
    cases j with
    | zero => rw [Nat.zero_add, ← List.head?_eq_getElem?]; exact h0
    | succ j => rw [← List.getElem?_tail, Nat.add_right_comm]; exact h j

theorem lvls_congr (h : Lvls t x k c) (he : ∀ i, k ≤ i → t'.get (i, x) = t.get (i, x)) :
    Lvls t' x k c := fun j => by
  rw [he _ (Nat.le_add_left k j)]; exact h j

theorem chain_none {fuel : Nat} (h : Chain t x k fuel) (h0 : t.get (k, x) = none) :
    Lvls t x k [] := fun j => by
  rw [Nat.add_comm]
  induction j with
  | zero => exact h0
  | succ j ih => exact Option.not_isSome_iff_eq_none.mp fun hs => by simpa [ih] using h.contig j hs

theorem chain_succ {fuel : Nat} (h : Chain t x k (fuel + 1)) : Chain t x (k + 1) fuel where
  short j hj := by
    rw [Nat.add_right_comm] at hj
    exact Nat.lt_of_succ_lt_succ (h.short (j + 1) hj)
  contig j hj := by
    rw [Nat.add_right_comm k 1 j] at hj ⊢
    exact h.contig (j + 1) hj

/-- a chain is a list: its entries, from level `k` up -/
theorem chain_iff {fuel : Nat} : Chain t x k fuel ↔ ∃ c : List Nat, c.length ≤ fuel ∧ Lvls t x k c := by
  refine ⟨fun h => ?_, fun ⟨c, hl, h⟩ => ⟨fun j hj => ?_, fun j hj => ?_⟩⟩
  · induction fuel generalizing k with
    | zero =>
      exact ⟨[], Nat.le_refl _, fun j => Option.not_isSome_iff_eq_none.mp fun hs =>
        Nat.not_lt_zero _ (h.short j (Nat.add_comm j k ▸ hs))⟩
    | succ fuel ih =>
      cases h0 : t.get (k, x) with
      | none => exact ⟨[], Nat.zero_le _, chain_none h h0⟩
      | some n =>
        obtain ⟨c, hl, hc⟩ := ih (chain_succ h)
        exact ⟨n :: c, Nat.succ_le_succ hl, lvls_succ.mpr ⟨h0, hc⟩⟩
  · rw [Nat.add_comm, h j, isSome_getElem?] at hj
    exact Nat.lt_of_lt_of_le hj hl
  · rw [Nat.add_comm k j, Nat.add_right_comm, h (j + 1), isSome_getElem?] at hj
    rw [Nat.add_comm, h j, isSome_getElem?]
    exact Nat.lt_of_succ_lt hj

end

theorem shadow_list (x : String) : ∀ (c : List Nat) (fuel k : Nat) (t : Tbl), Lvls t x k c →
    c.length ≤ fuel →
    (shadowT fuel k x t).get (k, x) = none ∧ Lvls (shadowT fuel k x t) x (k + 1) c ∧
    (∀ key : Key, (key.2 ≠ x ∨ key.1 < k) → (shadowT fuel k x t).get key = t.get key) := by
  intro c
  induction c with
  | nil =>
    intro fuel k t h _
    obtain ⟨h0, ht⟩ := lvls_succ.mp h
    rw [shadowT_none fuel h0]
    exact ⟨h0, ht, fun _ _ => rfl⟩
  | cons n c ih =>
    intro fuel k t h hl
    obtain ⟨h0, ht⟩ := lvls_succ.mp h
    cases fuel with
    | zero => exact absurd hl (Nat.not_succ_le_zero _)
    | succ fuel =>
      rw [shadowT_some fuel h0]
      obtain ⟨_, i2, i3⟩ := ih fuel (k + 1) t ht (Nat.le_of_succ_le_succ hl)
      refine ⟨by rw [get_del, if_pos rfl], lvls_succ.mpr ⟨?_, lvls_congr i2 fun i hi =>
        get_del_put (lvl_ne (Nat.ne_of_gt (Nat.lt_of_succ_lt hi))) (lvl_ne (Nat.ne_of_gt hi))⟩,
        fun key hk => ?_⟩
      · rw [get_del, if_neg (lvl_ne (Nat.succ_ne_self k)), get_put, if_pos rfl]; rfl
      · rw [get_del_put (off_ne hk (Nat.le_refl k)) (off_ne hk (Nat.le_succ k))]
        exact i3 key (hk.imp_right Nat.lt_succ_of_lt)

theorem unshadow_list (x : String) : ∀ (c : List Nat) (fuel k : Nat) (t : Tbl),
    Lvls t x (k + 1) c → t.get (k, x) = none → c.length ≤ fuel →
    Lvls (unshadowT fuel k x t) x k c ∧
    (∀ key : Key, (key.2 ≠ x ∨ key.1 < k) → (unshadowT fuel k x t).get key = t.get key) := by
  intro c
  induction c with
  | nil =>
    intro fuel k t h h0 _
    rw [unshadowT_none fuel (lvls_succ.mp h).1]
    exact ⟨lvls_succ.mpr ⟨h0, h⟩, fun _ _ => rfl⟩
  | cons n c ih =>
    intro fuel k t h h0 hl
    obtain ⟨h1, ht⟩ := lvls_succ.mp h
    cases fuel with
    | zero => exact absurd hl (Nat.not_succ_le_zero _)
    | succ fuel =>
      rw [unshadowT_some fuel h1]
      obtain ⟨i1, i2⟩ := ih fuel (k + 1) _
        (lvls_congr ht fun i hi => get_del_put (lvl_ne (Nat.ne_of_gt hi))
          (lvl_ne (Nat.ne_of_gt (Nat.lt_of_succ_lt hi))))
        (by rw [get_del, if_pos rfl]) (Nat.le_of_succ_le_succ hl)
      refine ⟨lvls_succ.mpr ⟨?_, i1⟩, fun key hk => ?_⟩
      · rw [i2 (k, x) (Or.inr (Nat.lt_succ_self k)), get_del,
          if_neg (lvl_ne (Nat.succ_ne_self k).symm), get_put, if_pos rfl]; rfl
      · rw [i2 key (hk.imp_right Nat.lt_succ_of_lt),
          get_del_put (off_ne hk (Nat.le_succ k)) (off_ne hk (Nat.le_refl k))]

/-- **shadow shifts the chain out by one level**, whatever its length, and changes nothing else -/
theorem shadow_shifts (x : String) : ∀ (fuel k : Nat) (t : Tbl), Chain t x k fuel →
    (shadowT fuel k x t).get (k, x) = none ∧
    (∀ j, (shadowT fuel k x t).get (k + j + 1, x) = t.get (k + j, x)) ∧
    (∀ key : Key, (key.2 ≠ x ∨ key.1 < k) → (shadowT fuel k x t).get key = t.get key) := by
  intro fuel k t h
  obtain ⟨c, hl, hc⟩ := chain_iff.mp h
  obtain ⟨s1, s2, s3⟩ := shadow_list x c fuel k t hc hl
  exact ⟨s1, fun j => by rw [Nat.add_comm k j]; exact (s2 j).trans (hc j).symm, s3⟩

/-- **unshadow shifts the chain in by one level and leaves no stale `~` entry**: with level `k`
    free, every level above moves down by one (so the last level becomes free), at every depth -/
theorem unshadow_unshifts (x : String) : ∀ (fuel k : Nat) (t : Tbl), Chain t x (k + 1) fuel →
    t.get (k, x) = none →
    (∀ j, (unshadowT fuel k x t).get (k + j, x) = t.get (k + j + 1, x)) ∧
    (∀ key : Key, (key.2 ≠ x ∨ key.1 < k) → (unshadowT fuel k x t).get key = t.get key) := by
  intro fuel k t h h0
  obtain ⟨c, hl, hc⟩ := chain_iff.mp h
  obtain ⟨u1, u2⟩ := unshadow_list x c fuel k t hc h0 hl
  exact ⟨fun j => by rw [Nat.add_comm k j]; exact (u1 j).trans (hc j).symm, u2⟩

/-- **shadow then unshadow is the identity** on a contiguous chain of any length: redeclaring a
    name in an inner block and closing that block restores every binding of every name -/
theorem shadow_unshadow_id (x : String) (fuel fuel' : Nat) (t : Tbl)
    (h : Chain t x 0 fuel) (hf : fuel < fuel') (n : Nat) (key : Key) :
    (unshadowT fuel' 0 x ((((shadowT fuel 0 x t).put (0, x) n)).del (0, x))).get key = t.get key := by
  obtain ⟨c, hl, hc⟩ := chain_iff.mp h
  obtain ⟨s1, s2, s3⟩ := shadow_list x c fuel 0 t hc hl
  -- between the two operations the table reads like `shadowT fuel 0 x t`: level 0 was free
  have g : ∀ key : Key, (((shadowT fuel 0 x t).put (0, x) n).del (0, x)).get key =
      (shadowT fuel 0 x t).get key := by
    intro key
    rw [get_del, get_put]
    by_cases e : key = (0, x)
    · rw [if_pos e, e, s1]
    · rw [if_neg e, if_neg e]
  obtain ⟨u1, u2⟩ := unshadow_list x c fuel' 0 _ (lvls_congr s2 fun i _ => g _) (by rw [g, s1])
    (Nat.le_trans hl (Nat.le_of_lt hf))
  by_cases hk : key.2 = x
  · obtain ⟨j, y⟩ := key
    subst hk
    exact (u1 j).trans (hc j).symm
  · rw [u2 key (Or.inl hk), g, s3 key (Or.inl hk)]

theorem index_none (l : L) (x : String) (h : l.get (0, x) = none) :
    l.index x = ({ tbl := l.tbl.put (0, x) l.i2k.length, i2k := l.i2k ++ [x] }, l.i2k.length) := by
  rw [L.index, h]

/-- `Index` of a name that is not visible allocates a **fresh** slot — the next index, never a
    slot that was used before, because the slot count never shrinks -/
theorem index_fresh (l : L) (x : String) (h : l.get (0, x) = none) :
    (l.index x).2 = l.i2k.length ∧ (l.index x).1.i2k.length = l.i2k.length + 1 ∧
    (l.index x).1.get (0, x) = some l.i2k.length := by
  rw [index_none l x h]
  exact ⟨rfl, List.length_append, (get_put ..).trans (if_pos rfl)⟩

/-- `Index` of a visible name returns its slot and changes nothing -/
theorem index_visible (l : L) (x : String) (n : Nat) (h : l.get (0, x) = some n) :
    l.index x = (l, n) := by
  rw [L.index, h]

/-! ### non-vacuity: a chain of length two satisfies the hypotheses -/

example : Chain ((({} : Tbl).put (0, "x") 5).put (1, "x") 3) "x" 0 3 :=
  chain_iff.mpr ⟨[5, 3], by decide, fun j => by
    rw [get_put, get_put]
    match j with
    | 0 => rfl
    | 1 => rfl
    | j + 2 => simp [Tbl.get]⟩

/-! ## Refinement: the symbol table is a stack of frames -/

abbrev Frame := List (String × Nat)
abbrev Env := List Frame          -- innermost first

def fget (f : Frame) (x : String) : Option Nat := (f.find? (fun b => b.1 = x)).map (·.2)

/-- the slots bound to `x`, innermost first -/
def chainOf (e : Env) (x : String) : List Nat := e.filterMap (fun f => fget f x)

def allBinds (e : Env) : List (String × Nat) := e.flatten

/-- the table `l` holds the frames `e`: per name the chain is the list of its slots, innermost first;
    `i2k` names exactly the slots of live bindings, a slot that `Drop` has closed reads `""` (hence
    `x ≠ ""` here, in `Op.named` and in `scope_refines`: the empty name is never declared) -/
structure AbsL (l : L) (e : Env) : Prop where
  tbl : ∀ (x : String) (j : Nat), l.get (j, x) = (chainOf e x)[j]?
  names : ∀ f ∈ e, (f.map (·.1)).Nodup
  slots : ((allBinds e).map (·.2)).Nodup
  live : ∀ (x : String) (n : Nat), (x, n) ∈ allBinds e → l.i2k[n]? = some x ∧ x ≠ ""
  dead : ∀ (n : Nat) (x : String), l.i2k[n]? = some x → x ≠ "" → (x, n) ∈ allBinds e

section
variable {f : Frame} {rest e : Env} {x y : String} {n : Nat} {l : L}

theorem fget_cons (b : String × Nat) (f : Frame) (x : String) :
    fget (b :: f) x = if b.1 = x then some b.2 else fget f x := by
  unfold fget
  rw [List.find?_cons]
  by_cases h : b.1 = x <;> simp [h]

theorem fget_none_iff : fget f x = none ↔ ∀ b ∈ f, b.1 ≠ x := by
  simp only [fget, Option.map_eq_none_iff, List.find?_eq_none, decide_eq_true_eq, ne_eq]

theorem fget_mem (h : fget f x = some n) : (x, n) ∈ f := by
  induction f with
  | nil => cases h
  | cons b f ih =>
    rw [fget_cons] at h
    split at h
    · next hb => cases h; cases hb; exact List.mem_cons_self
    · exact List.mem_cons_of_mem _ (ih h)

theorem fget_of_mem (hn : (f.map (·.1)).Nodup) (h : (x, n) ∈ f) : fget f x = some n := by
  induction f with
  | nil => cases h
  | cons b f ih =>
    rw [List.map_cons, List.nodup_cons] at hn
    rw [fget_cons]
    rcases List.mem_cons.mp h with rfl | h'
    · rw [if_pos rfl]
    · rw [if_neg fun hb => hn.1 (List.mem_map.mpr ⟨_, h', hb.symm⟩), ih hn.2 h']

theorem chainOf_cons (f : Frame) (rest : Env) (x : String) :
    chainOf (f :: rest) x = (match fget f x with | some n => n :: chainOf rest x | none => chainOf rest x) := by
  unfold chainOf
  rw [List.filterMap_cons]
  cases fget f x <;> rfl

theorem chainOf_cons_some (h : fget f x = some n) : chainOf (f :: rest) x = n :: chainOf rest x := by
  rw [chainOf_cons, h]

theorem chainOf_cons_none (h : fget f x = none) : chainOf (f :: rest) x = chainOf rest x := by
  rw [chainOf_cons, h]

theorem chainOf_congr {g : Frame} (h : fget f x = fget g x) :
    chainOf (f :: rest) x = chainOf (g :: rest) x := by
  rw [chainOf_cons, chainOf_cons, h]

theorem chainOf_bind_self : chainOf (((x, n) :: f) :: rest) x = n :: chainOf rest x :=
  chainOf_cons_some ((fget_cons _ _ _).trans (if_pos rfl))

theorem chainOf_bind_ne (h : y ≠ x) : chainOf (((x, n) :: f) :: rest) y = chainOf (f :: rest) y :=
  chainOf_congr ((fget_cons _ _ _).trans (if_neg (Ne.symm h)))

theorem allBinds_cons (f : Frame) (e : Env) : allBinds (f :: e) = f ++ allBinds e := rfl

theorem chain_sublist (e : Env) (x : String) : (chainOf e x).Sublist ((allBinds e).map (·.2)) := by
  induction e with
  | nil => exact List.Sublist.slnil
  | cons f rest ih =>
    rw [allBinds_cons, List.map_append]
    cases hf : fget f x with
    | none => rw [chainOf_cons_none hf]; exact ih.trans (List.sublist_append_right _ _)
    | some n =>
      rw [chainOf_cons_some hf]
      have hm : n ∈ f.map (·.2) := List.mem_map.mpr ⟨_, fget_mem hf, rfl⟩
      exact (List.singleton_sublist.mpr hm).append ih

theorem chain_mem_binds (h : n ∈ chainOf e x) : (x, n) ∈ allBinds e := by
  obtain ⟨f, hf, hfx⟩ := List.mem_filterMap.mp h
  exact List.mem_flatten.mpr ⟨f, hf, fget_mem hfx⟩

theorem slot_lt_len (h : AbsL l e) {b : String × Nat} (hm : b ∈ allBinds e) : b.2 < l.i2k.length :=
  (List.getElem?_eq_some_iff.mp (h.live b.1 b.2 hm).1).1

theorem chain_short (h : AbsL l e) (x : String) : (chainOf e x).length ≤ l.i2k.length := by
  have hnd : (chainOf e x).Nodup := (chain_sublist e x).nodup h.slots
  have hsub : chainOf e x ⊆ List.range l.i2k.length := fun n hn =>
    List.mem_range.mpr (slot_lt_len h (chain_mem_binds hn))
  simpa using hnd.length_le_of_subset hsub

theorem shadow_eq (h : AbsL l e) (x : String) :
    l.shadow x = ({ tbl := (shadowT (l.i2k.length + 1) 0 x l.tbl).put (0, x) l.i2k.length, i2k := l.i2k ++ [x] },
      l.i2k.length) :=
  index_none { l with tbl := shadowT (l.i2k.length + 1) 0 x l.tbl } x
    (shadow_list x _ _ 0 _ (h.tbl x) (Nat.le_succ_of_le (chain_short h x))).1

end

/-- **shadow_abs.** Declaring `x` (not bound in the current frame) binds it to a fresh slot in the
    current frame: every older binding of `x` moves one level out, no other name is touched. -/
theorem shadow_abs {l : L} {f : Frame} {rest : Env} (h : AbsL l (f :: rest)) (x : String)
    (hf : fget f x = none) (hx : x ≠ "") :
    (l.shadow x).2 = l.i2k.length ∧ AbsL (l.shadow x).1 (((x, l.i2k.length) :: f) :: rest) := by
  obtain ⟨_, s2, s3⟩ := shadow_list x _ (l.i2k.length + 1) 0 l.tbl (h.tbl x)
    (Nat.le_succ_of_le (chain_short h x))
  rw [shadow_eq h x]
  refine ⟨rfl, {
    tbl := fun y j => ?tbl, names := ?names, slots := ?slots,
    live := fun y n hm => ?live, dead := fun n y hy hne => ?dead }⟩
  case tbl =>
    simp only [L.get, get_put]
    by_cases hy : y = x
    · subst hy
      rw [chainOf_bind_self]
      rw [chainOf_cons_none hf] at s2
      cases j with
      | zero => rw [if_pos rfl]; rfl
      | succ j => rw [if_neg (lvl_ne (Nat.succ_ne_zero j))]; exact s2 j
    · rw [if_neg fun e => hy (Prod.mk.inj e).2, s3 _ (Or.inl hy), chainOf_bind_ne hy]
      exact h.tbl y j
  case names =>
    obtain ⟨hnf, hnr⟩ := List.forall_mem_cons.mp h.names
    refine List.forall_mem_cons.mpr ⟨List.nodup_cons.mpr ⟨fun hm => ?_, hnf⟩, hnr⟩
    obtain ⟨b, hb, hbx⟩ := List.mem_map.mp hm
    exact fget_none_iff.mp hf b hb hbx
  case slots =>
    refine List.nodup_cons.mpr ⟨fun hm => ?_, h.slots⟩
    obtain ⟨b, hb, hbn⟩ := List.mem_map.mp hm
    exact Nat.lt_irrefl _ (hbn ▸ slot_lt_len h hb)
  case live =>
    rcases List.mem_cons.mp hm with e | hm'
    · cases e; exact ⟨List.getElem?_concat_length, hx⟩
    · have := h.live y n hm'
      rwa [← List.getElem?_append_left (l₂ := [x]) (slot_lt_len h hm')] at this
  case dead =>
    rw [List.getElem?_append] at hy
    split at hy
    · exact List.mem_cons_of_mem _ (h.dead n y hy hne)
    · next hlt =>
      rw [List.getElem?_singleton] at hy
      split at hy
      · next h0 =>
        cases hy
        rw [Nat.le_antisymm (Nat.le_of_sub_eq_zero h0) (Nat.le_of_not_lt hlt)]
        exact List.mem_cons_self
      · cases hy

def fcut (f : Frame) (bound : Nat) : Frame := f.filter (fun b => b.2 < bound)
def fdel (f : Frame) (n : Nat) : Frame := f.filter (fun b => b.2 ≠ n)

/-- one iteration of `Drop`'s loop (lookup.go), for slot `n` -/
def dropStep (l' : L) (n : Nat) : L :=
  match l'.i2k[n]? with
  | none => l'
  | some key =>
    if key = "" then l'
    else { tbl := unshadowT (l'.i2k.length + 1) 0 key (l'.tbl.del (0, key)), i2k := l'.i2k.set n "" }

section
variable {f g : Frame} {rest : Env} {n : Nat}

theorem fcut_step (f : Frame) (n : Nat) : fdel (fcut f (n + 1)) n = fcut f n := by
  unfold fdel fcut
  rw [List.filter_filter]
  exact List.filter_congr fun b _ => by
    rw [← Bool.decide_and]
    exact decide_eq_decide.mpr ⟨fun ⟨h1, h2⟩ => Nat.lt_of_le_of_ne (Nat.le_of_lt_succ h2) h1,
      fun h => ⟨Nat.ne_of_lt h, Nat.lt_succ_of_lt h⟩⟩

theorem fcut_all (f : Frame) (bound : Nat) (h : ∀ b ∈ f, b.2 < bound) : fcut f bound = f :=
  List.filter_eq_self.mpr fun b hb => decide_eq_true (h b hb)

theorem fcut_none (f : Frame) (bound : Nat) (h : ∀ b ∈ f, bound ≤ b.2) : fcut f bound = [] :=
  List.filter_eq_nil_iff.mpr fun b hb => by simpa using h b hb

theorem fdel_id (f : Frame) (n : Nat) (h : ∀ b ∈ f, b.2 ≠ n) : fdel f n = f :=
  List.filter_eq_self.mpr fun b hb => decide_eq_true (h b hb)

theorem mem_fdel {b : String × Nat} : b ∈ fdel f n ↔ b ∈ f ∧ b.2 ≠ n := by
  simp only [fdel, List.mem_filter, decide_eq_true_eq]

theorem fget_fdel {y : String} (h : ∀ b ∈ g, b.2 = n → b.1 ≠ y) : fget (fdel g n) y = fget g y := by
  unfold fdel
  induction g with
  | nil => rfl
  | cons b g ih =>
    have ih := ih fun c hc => h c (List.mem_cons_of_mem _ hc)
    rw [List.filter_cons, fget_cons]
    split
    · rw [fget_cons, ih]
    · next hp =>
      rw [ih, if_neg fun hb => hp (decide_eq_true fun en => h b List.mem_cons_self en hb)]

theorem allBinds_fdel (hrest : ∀ b ∈ allBinds rest, b.2 ≠ n) :
    allBinds (fdel g n :: rest) = (allBinds (g :: rest)).filter (fun b => b.2 ≠ n) := by
  rw [allBinds_cons, allBinds_cons, List.filter_append,
    List.filter_eq_self.mpr fun b hb => decide_eq_true (hrest b hb)]
  rfl

theorem drop_succ (l : L) (t : Nat) : l.drop (t + 1) = dropStep (l.drop t) (l.i2k.length - (t + 1)) := rfl

theorem dropStep_length (l : L) (n : Nat) : (dropStep l n).i2k.length = l.i2k.length := by
  unfold dropStep
  split
  · rfl
  · split
    · rfl
    · exact List.length_set

end

/-- dropping never shrinks the slot count -/
theorem drop_length (l : L) : ∀ t, (l.drop t).i2k.length = l.i2k.length := by
  intro t
  induction t with
  | zero => rfl
  | succ t ih => rw [drop_succ, dropStep_length, ih]

/-- **drop_step.** Closing slot `n` (of the innermost frame `g`): the binding with that slot, if it
    is live, is removed and every outer binding of its name moves one level in. -/
theorem drop_step {l' : L} {g : Frame} {rest : Env} (h : AbsL l' (g :: rest)) (n : Nat)
    (hn : n < l'.i2k.length) (hrest : ∀ b ∈ allBinds rest, b.2 ≠ n) :
    AbsL (dropStep l' n) (fdel g n :: rest) := by
  obtain ⟨key, hkey⟩ : ∃ key, l'.i2k[n]? = some key := ⟨_, List.getElem?_eq_getElem hn⟩
  -- slot `n` is `key`'s alone
  have honly : ∀ b ∈ allBinds (g :: rest), b.2 = n → b.1 = key := fun b hb e => by
    have := (h.live b.1 b.2 hb).1
    rw [e, hkey] at this
    exact (Option.some.inj this).symm
  rw [dropStep, hkey]
  dsimp only
  by_cases hk : key = ""
  · -- a dead slot: nothing bound to it
    rw [if_pos hk, fdel_id g n fun b hb e =>
      (h.live b.1 b.2 (List.mem_append_left _ hb)).2 (hk ▸ honly b (List.mem_append_left _ hb) e)]
    exact h
  · rw [if_neg hk]
    have hgn := h.names g List.mem_cons_self
    have hing : (key, n) ∈ g :=
      (List.mem_append.mp (h.dead n key hkey hk)).resolve_right fun hm => hrest _ hm rfl
    have hfg := fget_of_mem hgn hing
    have hfg' : fget (fdel g n) key = none := fget_none_iff.mpr fun b hb e => by
      obtain ⟨hbg, hbn⟩ := mem_fdel.mp hb
      have := fget_of_mem hgn (show (key, b.2) ∈ g from e ▸ hbg)
      rw [hfg] at this
      exact hbn (Option.some.inj this).symm
    have hc := h.tbl key
    have hs := chain_short h key
    rw [chainOf_cons_some hfg] at hc hs
    obtain ⟨u1, u2⟩ := unshadow_list key (chainOf rest key) (l'.i2k.length + 1) 0 (l'.tbl.del (0, key))
      (lvls_congr ((lvls_succ (t := l'.tbl) (k := 0)).mp hc).2 fun i hi => by rw [get_del, if_neg (lvl_ne (Nat.ne_of_gt hi))])
      (by rw [get_del, if_pos rfl]) (Nat.le_of_succ_le (Nat.le_succ_of_le hs))
    have hb := allBinds_fdel (g := g) hrest
    refine {
      tbl := fun y j => ?tbl, names := ?names, slots := ?slots,
      live := fun y m hm => ?live, dead := fun m y hy hne => ?dead }
    case tbl =>
      simp only [L.get]
      by_cases hy : y = key
      · rw [hy, chainOf_cons_none hfg']; exact u1 j
      · have hfy : fget (fdel g n) y = fget g y := fget_fdel fun b hb en e =>
          hy (e.symm.trans (honly b (List.mem_append_left _ hb) en))
        rw [u2 _ (Or.inl hy), get_del, if_neg fun e => hy (Prod.mk.inj e).2, chainOf_congr hfy]
        exact h.tbl y j
    case names =>
      exact List.forall_mem_cons.mpr
        ⟨(List.filter_sublist.map _).nodup hgn, (List.forall_mem_cons.mp h.names).2⟩
    case slots => rw [hb]; exact (List.filter_sublist.map _).nodup h.slots
    case live =>
      rw [hb] at hm
      obtain ⟨hm, hmn⟩ := List.mem_filter.mp hm
      rw [List.getElem?_set_ne (Ne.symm (of_decide_eq_true hmn))]
      exact h.live y m hm
    case dead =>
      have hmn : n ≠ m := fun e => by
        rw [← e, List.getElem?_set_self hn] at hy
        exact hne (Option.some.inj hy).symm
      rw [List.getElem?_set_ne hmn] at hy
      rw [hb]
      exact List.mem_filter.mpr ⟨h.dead m y hy hne, decide_eq_true (Ne.symm hmn)⟩

/-- `Drop`'s loop, newest slot first: after `t` iterations the innermost frame is cut to the slots below
    `len - t`; slots of blocks closed earlier are already `""` and are skipped -/
theorem drop_abs {l : L} {f : Frame} {rest : Env} (h : AbsL l (f :: rest)) (mark : Nat)
    (hm : mark ≤ l.i2k.length) (hrest : ∀ b ∈ allBinds rest, b.2 < mark) :
    ∀ t, t ≤ l.i2k.length - mark → AbsL (l.drop t) (fcut f (l.i2k.length - t) :: rest) := by
  intro t
  induction t with
  | zero =>
    intro _
    rw [Nat.sub_zero, fcut_all f _ fun b hb => slot_lt_len h (List.mem_append_left _ hb)]
    exact h
  | succ t ih =>
    intro ht
    -- the slot closed next is `n = len - (t + 1)`: `mark ≤ n < len` and `len - t = n + 1`
    have hle : t + 1 ≤ l.i2k.length := Nat.le_trans ht (Nat.sub_le _ _)
    have h2 : mark ≤ l.i2k.length - (t + 1) :=
      Nat.le_sub_of_add_le (Nat.add_comm _ _ ▸ Nat.add_le_of_le_sub hm ht)
    have ih := ih (Nat.le_of_succ_le ht)
    rw [← Nat.succ_pred_eq_of_pos (Nat.sub_pos_of_lt hle)] at ih
    rw [drop_succ, ← fcut_step]
    exact drop_step ih _
      (by rw [drop_length]; exact Nat.sub_lt (Nat.lt_of_lt_of_le t.succ_pos hle) t.succ_pos)
      fun b hb => Nat.ne_of_lt (Nat.lt_of_lt_of_le (hrest b hb) h2)

/-- the scope marks delimit the frames' slot ranges: frame `i` owns the live slots in
    `[mark i, mark (i-1))`, the innermost up to `top` -/
def Marks : List Nat → Env → Nat → Prop
  | [], [f], top => ∀ b ∈ f, b.2 < top
  | m :: ms, f :: e', top => m ≤ top ∧ (∀ b ∈ f, m ≤ b.2 ∧ b.2 < top) ∧ Marks ms e' m
  | _, _, _ => False

theorem marks_cons : ∀ {ms : List Nat} {e : Env} {top : Nat}, Marks ms e top → ∃ f rest, e = f :: rest
  | [], [f], _, _ => ⟨f, [], rfl⟩
  | _ :: _, f :: e', _, _ => ⟨f, e', rfl⟩

theorem marks_lt : ∀ {ms : List Nat} {e : Env} {top : Nat}, Marks ms e top → ∀ b ∈ allBinds e, b.2 < top
  | [], [_], _, h, b, hb => h b ((List.mem_append.mp hb).resolve_right List.not_mem_nil)
  | _ :: _, _ :: _, _, ⟨h1, h2, h3⟩, b, hb =>
    (List.mem_append.mp hb).elim (fun hb => (h2 b hb).2) fun hb => Nat.lt_of_lt_of_le (marks_lt h3 b hb) h1

theorem marks_mono : ∀ {ms : List Nat} {e : Env} {top top' : Nat}, Marks ms e top → top ≤ top' → Marks ms e top'
  | [], [_], _, _, h, hle => fun b hb => Nat.lt_of_lt_of_le (h b hb) hle
  | _ :: _, _ :: _, _, _, ⟨h1, h2, h3⟩, hle =>
    ⟨Nat.le_trans h1 hle, fun b hb => ⟨(h2 b hb).1, Nat.lt_of_lt_of_le (h2 b hb).2 hle⟩, h3⟩

structure Abs (c : C) (e : Env) : Prop where
  tab : AbsL c.l e
  marks : Marks c.scope e c.l.i2k.length

/-- `chainOf` and `allBinds` of `[] :: e` reduce to those of `e`: only `names` sees the empty frame -/
theorem absL_nil_frame {l : L} {e : Env} : AbsL l ([] :: e) ↔ AbsL l e :=
  ⟨fun h => ⟨h.tbl, (List.forall_mem_cons.mp h.names).2, h.slots, h.live, h.dead⟩,
    fun h => ⟨h.tbl, List.forall_mem_cons.mpr ⟨List.nodup_nil, h.names⟩, h.slots, h.live, h.dead⟩⟩

/-- the specification: a stack of frames with a slot counter -/
structure SEnv where
  e : Env := [[]]
  next : Nat := 0

def SEnv.begin (s : SEnv) : SEnv := { s with e := [] :: s.e }

def SEnv.bind (s : SEnv) (x : String) : SEnv × Nat :=
  match s.e with
  | f :: rest => ({ e := ((x, s.next) :: f) :: rest, next := s.next + 1 }, s.next)
  | [] => (s, 0)

/-- `x := …` / `var x`: reuse the slot if `x` is already declared in *this* block, else a new
    variable in this block (which hides any outer `x`) -/
def SEnv.declare (s : SEnv) (x : String) : SEnv × Nat :=
  match s.e with
  | f :: _ => (match fget f x with | some n => (s, n) | none => s.bind x)
  | [] => (s, 0)

/-- `Locals.Index`: the visible variable of that name, or a new one in this block -/
def SEnv.index (s : SEnv) (x : String) : SEnv × Nat :=
  match (chainOf s.e x).head? with
  | some n => (s, n)
  | none => s.bind x

def SEnv.end (s : SEnv) : SEnv :=
  match s.e with
  | _ :: g :: rest => { s with e := g :: rest }
  | _ => s

/-- Go's rule: the innermost enclosing block that declares the name -/
def SEnv.resolve (s : SEnv) (x : String) : Option Nat := (chainOf s.e x).head?

structure Rel (c : C) (s : SEnv) : Prop where
  abs : Abs c s.e
  next : s.next = c.l.i2k.length

theorem resolve_eq {c : C} {s : SEnv} (h : Rel c s) (x : String) : c.resolve x = s.resolve x :=
  (h.abs.tab.tbl x 0).trans List.head?_eq_getElem?.symm

theorem shadow_eq_index (l : L) (x : String) (h : l.get (0, x) = none) : l.shadow x = l.index x := by
  rw [L.shadow, shadowT_none _ h]

theorem marks_bind (x : String) : ∀ {ms : List Nat} {f : Frame} {rest : Env} {top : Nat},
    Marks ms (f :: rest) top → Marks ms (((x, top) :: f) :: rest) (top + 1)
  | [], _, [], _, h => fun b hb => (List.mem_cons.mp hb).elim (fun e => e ▸ Nat.lt_succ_self _)
      fun hb => Nat.lt_succ_of_lt (h b hb)
  | _ :: _, _, _, _, ⟨h1, h2, h3⟩ => ⟨Nat.le_succ_of_le h1, fun b hb =>
      (List.mem_cons.mp hb).elim (fun e => e ▸ ⟨h1, Nat.lt_succ_self _⟩)
        fun hb => ⟨(h2 b hb).1, Nat.lt_succ_of_lt (h2 b hb).2⟩, h3⟩

theorem bind_rel {c : C} {s : SEnv} (h : Rel c s) (x : String) (hx : x ≠ "") (f : Frame) (rest : Env)
    (he : s.e = f :: rest) (hf : fget f x = none) :
    Rel { c with l := (c.l.shadow x).1 } (s.bind x).1 ∧ (c.l.shadow x).2 = (s.bind x).2 := by
  obtain ⟨e, nx⟩ := s
  obtain ⟨⟨htab, hm⟩, hnext⟩ := h
  subst he hnext
  have habs := (shadow_abs htab x hf hx).2
  rw [shadow_eq htab x] at habs ⊢
  have hlen : (c.l.i2k ++ [x]).length = c.l.i2k.length + 1 := List.length_append
  exact ⟨⟨⟨habs, hlen ▸ marks_bind x hm⟩, hlen.symm⟩, rfl⟩

theorem declare_rel {c : C} {s : SEnv} (h : Rel c s) (x : String) (hx : x ≠ "") :
    Rel (c.declare x).1 (s.declare x).1 ∧ (c.declare x).2 = (s.declare x).2 := by
  obtain ⟨l, sc⟩ := c
  have hm : Marks sc s.e l.i2k.length := h.abs.marks
  obtain ⟨f, rest, he⟩ := marks_cons hm
  have hget : l.get (0, x) = (chainOf s.e x).head? := resolve_eq h x
  rw [he] at hget hm
  rw [SEnv.declare, he, C.declare]
  dsimp only
  cases hf : fget f x with
  | some n =>
    -- declared in this block already: reuse
    rw [chainOf_cons_some hf, List.head?_cons] at hget
    have hi := index_visible l x n hget
    rw [hget]
    cases sc with
    | nil => rw [hi]; exact ⟨h, rfl⟩
    | cons mark ms =>
      dsimp only
      rw [if_neg (Nat.not_lt.mpr (hm.2.1 _ (fget_mem hf)).1), hi]
      exact ⟨h, rfl⟩
  | none =>
    rw [chainOf_cons_none hf] at hget
    have hb := bind_rel h x hx f rest he hf
    cases hv : l.get (0, x) with
    | none => rw [← shadow_eq_index l x hv]; exact hb
    | some n =>
      -- visible, so declared in an outer block: its slot lies below the mark
      rw [hv] at hget
      have hn := chain_mem_binds (List.mem_of_mem_head? hget.symm)
      cases sc with
      | nil => match rest, hm, hn with | [], _, hn => cases hn
      | cons mark ms =>
        dsimp only
        rw [if_pos (marks_lt hm.2.2 _ hn)]
        exact hb

theorem index_rel {c : C} {s : SEnv} (h : Rel c s) (x : String) (hx : x ≠ "") :
    Rel (c.index x).1 (s.index x).1 ∧ (c.index x).2 = (s.index x).2 := by
  have hget : c.l.get (0, x) = (chainOf s.e x).head? := resolve_eq h x
  rw [C.index, SEnv.index]
  cases hc : (chainOf s.e x).head? with
  | some n =>
    rw [hc] at hget
    rw [index_visible c.l x n hget]
    exact ⟨h, rfl⟩
  | none =>
    rw [hc] at hget
    obtain ⟨f, rest, he⟩ := marks_cons h.abs.marks
    rw [← shadow_eq_index c.l x hget]
    refine bind_rel h x hx f rest he ?_
    cases hf : fget f x with
    | none => rfl
    | some n => rw [he, chainOf_cons_some hf] at hc; cases hc

theorem begin_rel {c : C} {s : SEnv} (h : Rel c s) : Rel c.begin s.begin :=
  ⟨⟨absL_nil_frame.mpr h.abs.tab, Nat.le_refl _, fun _ hb => (List.not_mem_nil hb).elim, h.abs.marks⟩, h.next⟩

theorem end_rel {c : C} {s : SEnv} (h : Rel c s) : Rel c.end s.end := by
  obtain ⟨l, sc⟩ := c
  obtain ⟨e, nx⟩ := s
  obtain ⟨⟨htab, hm⟩, hnext⟩ := h
  match sc, e, hm with
  | [], [f], hm => exact ⟨⟨htab, hm⟩, hnext⟩
  | mark :: ms, f :: e', ⟨h1, h2, h3⟩ =>
    obtain ⟨g, rest, rfl⟩ := marks_cons h3
    have hd := drop_abs htab mark h1 (marks_lt h3) _ (Nat.le_refl _)
    rw [Nat.sub_sub_self h1, fcut_none f mark fun b hb => (h2 b hb).1] at hd
    exact ⟨⟨absL_nil_frame.mp hd, (drop_length l _).symm ▸ marks_mono h3 h1⟩, hnext.trans (drop_length l _).symm⟩

inductive Op
  | begin
  | declare (x : String)
  | index (x : String)
  | «end»

def Op.named : Op → Bool
  | .declare x => x != ""
  | .index x => x != ""
  | _ => true

def stepC (c : C) : Op → C × Option Nat
  | .begin => (c.begin, none)
  | .declare x => let (c', n) := c.declare x; (c', some n)
  | .index x => let (c', n) := c.index x; (c', some n)
  | .end => (c.end, none)

def stepS (s : SEnv) : Op → SEnv × Option Nat
  | .begin => (s.begin, none)
  | .declare x => let (s', n) := s.declare x; (s', some n)
  | .index x => let (s', n) := s.index x; (s', some n)
  | .end => (s.end, none)

def runC (c : C) : List Op → C × List (Option Nat)
  | [] => (c, [])
  | op :: ops => let (c', r) := stepC c op; let (c'', rs) := runC c' ops; (c'', r :: rs)

def runS (s : SEnv) : List Op → SEnv × List (Option Nat)
  | [] => (s, [])
  | op :: ops => let (s', r) := stepS s op; let (s'', rs) := runS s' ops; (s'', r :: rs)

theorem step_rel {c : C} {s : SEnv} (h : Rel c s) : ∀ (op : Op), op.named = true →
    Rel (stepC c op).1 (stepS s op).1 ∧ (stepC c op).2 = (stepS s op).2
  | .begin, _ => ⟨begin_rel h, rfl⟩
  | .end, _ => ⟨end_rel h, rfl⟩
  | .declare x, hn => (declare_rel h x (bne_iff_ne.mp hn)).imp_right (congrArg some)
  | .index x, hn => (index_rel h x (bne_iff_ne.mp hn)).imp_right (congrArg some)

theorem init_rel : Rel {} {} :=
  ⟨⟨⟨fun _ _ => Std.HashMap.getElem?_empty,
      fun f hf => by cases List.mem_singleton.mp hf; exact List.nodup_nil, List.nodup_nil,
      fun _ _ hm => (nomatch hm), fun n x hx => (nomatch hx)⟩,
    fun _ hb => (nomatch hb)⟩, rfl⟩

/-- **scope_refines.** For every history of block entries, declarations, hidden-variable look-ups
    and block exits (however deep, however names repeat), the symbol table with its `~`-chains and
    the stack-of-frames specification stay related: every declaration returns the same slot in
    both, and afterwards every name resolves to the same slot — Go's rule "the innermost enclosing
    block that declares the name". -/
theorem scope_refines (ops : List Op) (hn : ∀ op ∈ ops, op.named = true) :
    ∀ (c : C) (s : SEnv), Rel c s →
      Rel (runC c ops).1 (runS s ops).1 ∧ (runC c ops).2 = (runS s ops).2 := by
  induction ops with
  | nil => intro c s h; exact ⟨h, rfl⟩
  | cons op ops ih =>
    intro c s h
    have hs := step_rel h op (hn op List.mem_cons_self)
    have := ih (fun o ho => hn o (List.mem_cons_of_mem _ ho)) _ _ hs.1
    exact ⟨this.1, congr (congrArg List.cons hs.2) this.2⟩

theorem scope_refines_resolve (ops : List Op) (hn : ∀ op ∈ ops, op.named = true) (x : String) :
    (runC {} ops).1.resolve x = (runS {} ops).1.resolve x :=
  resolve_eq (scope_refines ops hn {} {} init_rel).1 x

/-! ### non-vacuity: `x` declared at three nesting levels, the inner two closed again -/

example :
    let ops := [Op.declare "x", .begin, .declare "y", .declare "x", .begin, .declare "x", .end, .declare "z", .end]
    (runS {} ops).2 = [some 0, none, some 1, some 2, none, some 3, none, some 4, none] ∧
    (runS {} ops).1.resolve "x" = some 0 ∧ (runS {} ops).1.resolve "y" = none := by decide

/-! ### which table an identifier is looked up in (compiler.go `case "(name)"`, generated order) -/

open Goat.Resolve in
/-- **local_wins.** With the chain of tests in the order of the source (`Gen.resolveOrder`, regenerated from
    compiler.go on every run): an identifier bound in the enclosing scopes of the function resolves to that
    binding whatever package-level names and builtins the table of globals holds - and however they got
    there (an earlier load, an earlier Eval, a declaration further down the file) - unless the body being
    compiled declared a type of that name. -/
theorem local_wins (t : Tab) (c : Ctx) (x : String) (hx : x ≠ "$") (hl : x ∈ c.locals)
    (ht : Key.ltype c.fn x ∉ t.keys) : resolve t c x = .localGet x :=
  Goat.Resolve.local_wins t c x hx hl ht

open Goat.Resolve in
/-- **local_wins_after_any_history.** In the body of a function f that is compiled after ANY history of
    compilations (of other functions, of earlier bodies of f, of literals that had the same position-made
    name) and package-level definitions, at a point where the body has declared the types `tys`, a bound
    identifier that is not one of them is the local. -/
theorem local_wins_after_any_history (h : List Ev) (hok : ∀ e ∈ h, e.ok) (f : String) (hf : f ≠ "")
    (tys : List String) (locals : List String) (x : String) (hx : x ≠ "$") (hl : x ∈ locals) (hn : x ∉ tys) :
    resolve (step (run h) (.compile f tys)) { fn := f, inScope := true, locals := locals } x = .localGet x :=
  Goat.Resolve.local_wins_after_any_history h hok f hf tys locals x hx hl hn

open Goat.Resolve in
/-- a package-level name beats a builtin of the same name -/
theorem package_beats_builtin (t : Tab) (c : Ctx) (x : String) (hx : x ≠ "$") (hl : x ∉ c.locals)
    (ht : Key.ltype c.fn x ∉ t.keys) (hg : Key.glob x ∈ t.keys) : resolve t c x = .globalGet (.glob x) :=
  Goat.Resolve.package_beats_builtin t c x hx hl ht hg

open Goat.Resolve in
/-- a name found nowhere is a forward reference to the package-level name (resolved when the code runs) -/
theorem forward_reference (t : Tab) (c : Ctx) (x : String) (hx : x ≠ "$") (hl : x ∉ c.locals)
    (ht : Key.ltype c.fn x ∉ t.keys) (hg : Key.glob x ∉ t.keys) (hb : Key.builtin x ∉ t.keys) :
    resolve t c x = .globalGet (.glob x) :=
  Goat.Resolve.forward_reference t c x hx hl ht hg hb

/-- every case of `compile` that compiles a function body enters it through `enterFunc` (regenerated) -/
theorem bodies_enter_through_enterFunc : Gen.enterFuncCases = ["function", "init", "lambda", "method"] := by decide

/-- `enterFunc` has the shape the model assumes: it records the name and, for a name compiled before, deletes
    exactly the keys `<name>.<identifier>` (the extractor compares the body statement by statement) -/
theorem enterFunc_has_model_shape : Gen.enterFuncDrops = true := by decide

example : Goat.Resolve.resolve (Goat.Resolve.step (Goat.Resolve.run Goat.Resolve.hist) (.compile "main.f" []))
    { fn := "main.f", inScope := true, locals := ["acc"] } "acc" = .localGet "acc" := by decide

end Goat.Props.C08

#print axioms Goat.Props.C08.shadow_shifts
#print axioms Goat.Props.C08.unshadow_unshifts
#print axioms Goat.Props.C08.shadow_unshadow_id
#print axioms Goat.Props.C08.index_fresh
#print axioms Goat.Props.C08.index_visible
#print axioms Goat.Props.C08.drop_length
#print axioms Goat.Props.C08.shadow_abs
#print axioms Goat.Props.C08.drop_step
#print axioms Goat.Props.C08.drop_abs
#print axioms Goat.Props.C08.declare_rel
#print axioms Goat.Props.C08.index_rel
#print axioms Goat.Props.C08.end_rel
#print axioms Goat.Props.C08.scope_refines
#print axioms Goat.Props.C08.scope_refines_resolve
#print axioms Goat.Props.C08.local_wins
#print axioms Goat.Props.C08.local_wins_after_any_history
#print axioms Goat.Props.C08.package_beats_builtin
#print axioms Goat.Props.C08.forward_reference
#print axioms Goat.Props.C08.bodies_enter_through_enterFunc
#print axioms Goat.Props.C08.enterFunc_has_model_shape
