import Goat.Lemmas.OMap
import Goat.Model.Tuple
import Goat.Gen.Tables
/-!
# C10 — script maps behave like Go maps under any history of operations

The specification is a finite map `K → Option V` (a Go map); `m.get` is the abstraction.
All theorems hold for every key type with decidable equality, every value type, every history
and — for the lazily compacted key list — every order `maps.Keys` may return.
-/
namespace Goat.Props.C10
open Goat.OMap

variable {K V : Type} [DecidableEq K]

/-! ### refinement of the finite-map specification -/

/-- lookup after insert/update sees the latest write, other keys are unaffected -/
theorem get_set (m : M K V) (k k' : K) (v : V) :
    (m.set k v).get k' = if k' = k then some v else m.get k' := by
  rw [M.get, set_data]; exact aget_aput k k' v m.data

/-- lookup after delete: the key is gone (comma-ok false / zero value), other keys are unaffected;
    whichever order the compaction picks -/
theorem get_delete (m : M K V) (h : Inv m) (k k' : K) (perm : List K) :
    (m.delete k perm).get k' = if k' = k then none else m.get k' := by
  rw [M.get, delete_data]; exact aget_adel k k' h.live_nodup

/-- `len` counts the live keys: it grows by one exactly for a new key … -/
theorem len_set (m : M K V) (k : K) (v : V) :
    (m.set k v).len = if (m.get k).isSome then m.len else m.len + 1 := by
  rw [M.len, set_data]; exact length_aput k v m.data

/-- … and shrinks by one exactly for a present key -/
theorem len_delete (m : M K V) (k : K) (perm : List K) :
    (m.delete k perm).len = if (m.get k).isSome then m.len - 1 else m.len := by
  rw [M.len, delete_data]; exact length_adel k m.data

/-- the live keys are duplicate-free and `len` is their number; a key is live iff lookup finds it -/
theorem len_counts (m : M K V) (h : Inv m) :
    m.len = m.live.length ∧ m.live.Nodup ∧ ∀ k, k ∈ m.live ↔ (m.get k).isSome :=
  ⟨(length_akeys m.data).symm, h.live_nodup, fun k => mem_akeys_iff k m.data⟩

/-- a map built from a literal (keys may even coincide at run time) satisfies the invariant -/
theorem inv_ofList (pairs : List (K × V)) : Inv (M.ofList pairs) := by
  -- nothing is ever deleted, so the key list IS the list of live keys
  suffices h : (M.ofList pairs).live.Nodup ∧ (M.ofList pairs).keys = (M.ofList pairs).live from
    ⟨h.1, h.2 ▸ h.1, fun k hk => h.2 ▸ hk⟩
  refine List.foldlRecOn (motive := fun m : M K V => m.live.Nodup ∧ m.keys = m.live) pairs _
    ⟨List.nodup_nil, rfl⟩ fun m ⟨h1, h2⟩ p _ => ⟨nodup_akeys_aput p.1 p.2 h1, ?_⟩
  show (if (aget p.1 m.data).isSome then m.keys else m.keys ++ [p.1]) = akeys (aput p.1 p.2 m.data)
  rw [akeys_aput, h2]; rfl

/-! ### refinement over whole histories -/

inductive Op (K V : Type) where
  | set (k : K) (v : V)
  | del (k : K) (perm : List K)

def apply (m : M K V) : Op K V → M K V
  | .set k v => m.set k v
  | .del k p => m.delete k p

/-- every delete is given an order that is a permutation of the keys live after it -/
def Valid : M K V → List (Op K V) → Prop
  | _, [] => True
  | m, .set k v :: ops => Valid (m.set k v) ops
  | m, .del k p :: ops => p.Perm (akeys (adel k m.data)) ∧ Valid (m.delete k p) ops

/-- the specification: a Go map as a function, one step per operation -/
def specStep (f : K → Option V) : Op K V → (K → Option V)
  | .set k v => fun k' => if k' = k then some v else f k'
  | .del k _ => fun k' => if k' = k then none else f k'

theorem apply_refines {m : M K V} (h : Inv m) {op : Op K V} {ops : List (Op K V)}
    (hv : Valid m (op :: ops)) :
    Inv (apply m op) ∧ Valid (apply m op) ops ∧ (apply m op).get = specStep m.get op := by
  cases op with
  | set k v => exact ⟨inv_set m k v h, hv, funext fun k' => get_set m k k' v⟩
  | del k p => exact ⟨inv_delete m k p h hv.1, hv.2, funext fun k' => get_delete m h k k' p⟩

theorem history (m : M K V) (h : Inv m) (ops : List (Op K V)) (hv : Valid m ops) :
    Inv (ops.foldl apply m) ∧ (ops.foldl apply m).get = ops.foldl specStep m.get := by
  induction ops generalizing m with
  | nil => exact ⟨h, rfl⟩
  | cons op ops ih =>
    obtain ⟨hi, hv', e⟩ := apply_refines h hv
    rw [List.foldl_cons, List.foldl_cons, ← e]
    exact ih _ hi hv'

/-- the invariant holds in every reachable state -/
theorem inv_history (m : M K V) (h : Inv m) (ops : List (Op K V)) (hv : Valid m ops) :
    Inv (ops.foldl apply m) := (history m h ops hv).1

/-- **history_refines.** After any history of sets and deletes (every delete compacting to whatever
    order of the live keys), lookup of every key is what the finite-map specification gives. -/
theorem history_refines (m : M K V) (h : Inv m) (ops : List (Op K V)) (hv : Valid m ops) (k : K) :
    (ops.foldl apply m).get k = (ops.foldl specStep m.get) k := congrFun (history m h ops hv).2 k

/-- and `len` is the length of the list of live keys, which are exactly the keys the specification
    maps to a value (the list is duplicate-free by `inv_history` and `len_counts`) -/
theorem len_refines (m : M K V) (h : Inv m) (ops : List (Op K V)) (hv : Valid m ops) :
    let m' := ops.foldl apply m
    m'.len = m'.live.length ∧ ∀ k, k ∈ m'.live ↔ ((ops.foldl specStep m.get) k).isSome := by
  intro m'
  obtain ⟨hi, e⟩ := history m h ops hv
  obtain ⟨h1, _, h3⟩ := len_counts m' hi
  exact ⟨h1, fun k => e ▸ h3 k⟩

/-! ### the range contract, for every interleaving of iteration with mutation -/

/-- a visit yields a key that is live at that moment, with its current value; the keys skipped
    before it are dead at that moment -/
theorem visit_is_live {m : M K V} {rem rem' : List K} {k : K} {v : V}
    (h : next m rem = (some (k, v), rem')) :
    m.get k = some v ∧ ∃ pre, rem = pre ++ k :: rem' ∧ ∀ x ∈ pre, m.get x = none := by
  fun_induction next m rem with
  | case1 => cases h
  | case2 a t w hg => cases h; exact ⟨hg, [], rfl, nofun⟩
  | case3 a t hg ih =>
    obtain ⟨hv, pre, e, hd⟩ := ih h
    exact ⟨hv, a :: pre, e ▸ rfl, fun x hx => (List.mem_cons.mp hx).elim (· ▸ hg) (hd x)⟩

theorem next_none {m : M K V} {rem rem' : List K} (h : next m rem = (none, rem')) :
    rem' = [] ∧ ∀ x ∈ rem, m.get x = none := by
  fun_induction next m rem with
  | case1 => cases h; exact ⟨rfl, nofun⟩
  | case2 => cases h
  | case3 a t hg ih =>
    exact ⟨(ih h).1, fun x hx => (List.mem_cons.mp hx).elim (· ▸ hg) ((ih h).2 x)⟩

/-- the loop walks the snapshot once, in order: the visited keys followed by the keys it has not
    looked at yet are a sublist of the snapshot, whatever happens to the map meanwhile -/
theorem run_sublist (m : M K V) (rem : List K) (es : List (Ev K V)) :
    ((run m rem es).1.map (·.1) ++ (run m rem es).2).Sublist rem := by
  fun_induction run m rem es with
  | case1 => exact List.Sublist.refl _
  | case2 _ _ _ _ _ ih | case3 _ _ _ _ _ ih => exact ih
  | case4 m rem es kv rem' hn r ih =>
    obtain ⟨k, v⟩ := kv
    obtain ⟨_, pre, rfl, _⟩ := visit_is_live hn
    exact (ih.cons_cons k).trans (List.sublist_append_right pre _)
  | case5 m rem es rem' hn ih => exact ih.trans ((next_none hn).1 ▸ List.nil_sublist _)

/-- no key is visited twice — in particular a key deleted and re-inserted, or inserted
    during the loop, is visited at most once — and only snapshot keys are visited -/
theorem visits_nodup (m : M K V) (rem : List K) (es : List (Ev K V)) (hnd : rem.Nodup) :
    ((run m rem es).1.map (·.1)).Nodup ∧ (∀ k ∈ (run m rem es).1.map (·.1), k ∈ rem) ∧
    (run m rem es).2.Nodup ∧ (∀ k ∈ (run m rem es).2, k ∈ rem) := by
  have hs := run_sublist m rem es
  obtain ⟨h1, h2, _⟩ := List.nodup_append.mp (hs.nodup hnd)
  exact ⟨h1, fun k hk => hs.subset (List.mem_append_left _ hk), h2,
    fun k hk => hs.subset (List.mem_append_right _ hk)⟩

/-- a key that stays live from the snapshot through every step of the loop -/
def AlwaysLive (k : K) : M K V → List (Ev K V) → Prop
  | m, [] => (m.get k).isSome
  | m, .set k' v :: es => (m.get k).isSome ∧ AlwaysLive k (m.set k' v) es
  | m, .del k' p :: es => (m.get k).isSome ∧ AlwaysLive k (m.delete k' p) es
  | m, .next :: es => (m.get k).isSome ∧ AlwaysLive k m es

/-- a snapshot key that is live for the whole loop is either visited or still ahead -/
theorem visits_complete (k : K) (m : M K V) (rem : List K) (es : List (Ev K V))
    (hk : k ∈ rem) (hl : AlwaysLive k m es) :
    k ∈ (run m rem es).1.map (·.1) ∨ k ∈ (run m rem es).2 := by
  fun_induction run m rem es with
  | case1 => exact Or.inr hk
  | case2 _ _ _ _ _ ih | case3 _ _ _ _ _ ih => exact ih hk hl.2
  | case4 m rem es kv rem' hn r ih =>
    -- `next` skipped dead keys only, and `k` is live
    obtain ⟨_, pre, rfl, hd⟩ := visit_is_live hn
    rcases List.mem_append.mp hk with hp | hp
    · exact absurd (hd k hp) (Option.isSome_iff_ne_none.mp hl.1)
    · rcases List.mem_cons.mp hp with rfl | hp
      · exact Or.inl (List.mem_cons_self ..)
      · exact (ih hp hl.2).imp_left (List.mem_cons_of_mem _)
  | case5 m rem es rem' hn =>
    exact absurd ((next_none hn).2 k hk) (Option.isSome_iff_ne_none.mp hl.1)

/-- **the range contract.** Start a `range` over a map in any reachable state (`Inv`), and let the
    loop body and the iterator interleave in any way (`es`). Then: no key is visited twice; and if the
    loop ran to exhaustion (nothing of the snapshot is left), every key that was live from the
    snapshot to the end has been visited. (Only snapshot keys are visited: `visits_nodup`.) -/
theorem range_contract (m : M K V) (h : Inv m) (es : List (Ev K V)) :
    ((run m m.keys es).1.map (·.1)).Nodup ∧
    (∀ k, k ∈ m.live → AlwaysLive k m es → (run m m.keys es).2 = [] →
        k ∈ (run m m.keys es).1.map (·.1)) :=
  ⟨(visits_nodup m m.keys es h.keys_nodup).1, fun k hk hl hfin =>
    (visits_complete k m m.keys es (h.live_sub k hk) hl).resolve_right (hfin ▸ List.not_mem_nil)⟩

/-! ### non-vacuity: delete-then-reinsert, compaction and mutation during a loop -/

/-- `m := {1:1, 2:2}; delete(m,1); m[1] = 5; for range m` — key 1 is visited once -/
example :
    let m := ((M.ofList [(1, 1), (2, 2)] : M Nat Nat).delete 1 []).set 1 5
    (run m m.keys [.next, .next, .next]).1 = [(2, 2), (1, 5)] ∧ m.len = 2 := by decide

/-- a stale key, a delete-and-reinsert during the loop, and an insert during the loop:
    every visit is of a live key, none is repeated -/
example :
    let m0 : M Nat Nat := M.ofList [(1, 10), (2, 20), (3, 30), (4, 40), (5, 50)]
    let m := m0.delete 2 []
    m.keys = [1, 2, 3, 4, 5] ∧
    (run m m.keys [.next, .del 3 [], .set 3 33, .set 9 90, .next, .next, .next, .next]) =
      ([(1, 10), (3, 33), (4, 40), (5, 50)], []) := by decide +kernel

/-- deleting below half occupancy compacts the key list to the supplied order -/
example :
    let m0 : M Nat Nat := M.ofList [(1, 10), (2, 20), (3, 30), (4, 40), (5, 50)]
    ((((m0.delete 1 []).delete 2 []).delete 3 []).delete 4 [5]).keys = [5] ∧
    (((m0.delete 1 []).delete 2 []).delete 3 []).keys = [1, 2, 3, 4, 5] := by decide

example : Inv ((M.ofList [(1, 1), (2, 2)] : M Nat Nat).delete 1 [2]) :=
  inv_delete _ 1 [2] (inv_ofList _) (by decide)


/-! ### multi-target assignment: `m[k1], m[k2], x = v1, v2, v3` (Model/Tuple.lean)

goatlang stores the targets from the last to the first, Go from the first to the last. The
theorems say exactly where that can be seen: nowhere when no location is the target of two stores
(`tuple_assign_distinct`), and otherwise only at a location named twice with different first and
last values (`tuple_assign_differs_iff`) — the open finding `tuple-assignment-same-key`. -/
section Tuple
open Goat.Tuple
variable {L V : Type} [DecidableEq L]

theorem foldl_step_append (σ : L → V) (a b : List (Option L × V)) :
    (a ++ b).foldl step σ = b.foldl step (a.foldl step σ) := List.foldl_append ..

/-- the first target's store is the last one goatlang carries out -/
theorem implStores_cons (σ : L → V) (tv : Option L × V) (tvs : List (Option L × V)) :
    implStores σ (tv :: tvs) = step (implStores σ tvs) tv := by
  simp [implStores]

/-- **impl_reads_first / go_reads_last.** After the stores, a location holds the value of the entry
    naming it whose store came last — the first such entry for goatlang, the last one for Go — else
    its old value. The two statements are mirror images: Go's order is goatlang's on the reversed
    list. -/
theorem impl_reads_first (σ : L → V) (tvs : List (Option L × V)) (l : L) :
    implStores σ tvs l = (firstFor l tvs).getD (σ l) := by
  fun_induction firstFor l tvs with
  | case1 => rfl
  | case2 => simp [implStores_cons, step, put]
  | case3 l' v rest h ih => simp [implStores_cons, step, put, Ne.symm h, ih]
  | case4 v rest ih => rw [implStores_cons]; exact ih

theorem go_reads_last (σ : L → V) (tvs : List (Option L × V)) (l : L) :
    goStores σ tvs l = (lastFor l tvs).getD (σ l) := by
  rw [lastFor, ← impl_reads_first, implStores, List.reverse_reverse]; rfl

/-- no location is named by two targets -/
def Distinct : List (Option L × V) → Prop
  | [] => True
  | (some l, _) :: rest => firstFor l rest = none ∧ Distinct rest
  | (none, _) :: rest => Distinct rest

theorem firstFor_append (l : L) (a b : List (Option L × V)) :
    firstFor l (a ++ b) = (firstFor l a).orElse (fun _ => firstFor l b) := by
  fun_induction firstFor l a with
  | case1 => rfl
  | case2 => exact if_pos rfl
  | case3 l' v rest h ih => exact (if_neg h).trans ih
  | case4 v rest ih => exact ih

theorem first_eq_last_of_distinct (l : L) (tvs : List (Option L × V)) (h : Distinct tvs) :
    lastFor l tvs = firstFor l tvs := by
  unfold lastFor
  fun_induction Distinct tvs with
  | case1 => rfl
  | case2 l' v rest ih =>
    rw [List.reverse_cons, firstFor_append, ih h.2]
    by_cases e : l' = l
    · subst e; simp [firstFor, h.1]
    · simp [firstFor, e]
  | case3 v rest ih =>
    rw [List.reverse_cons, firstFor_append, ih h]
    simp [firstFor]

/-- **tuple_assign_distinct.** When no location is the target of two stores, goatlang's right-to-left
    stores leave exactly the state Go's left-to-right stores leave. -/
theorem tuple_assign_distinct (σ : L → V) (tvs : List (Option L × V)) (h : Distinct tvs) :
    implStores σ tvs = goStores σ tvs := by
  funext l
  rw [impl_reads_first, go_reads_last, first_eq_last_of_distinct l tvs h]

/-- and in general the two differ at `l` exactly when the first and the last target naming `l`
    carry different values -/
theorem tuple_assign_differs_iff (σ : L → V) (tvs : List (Option L × V)) (l : L) :
    implStores σ tvs l = goStores σ tvs l ↔ (firstFor l tvs).getD (σ l) = (lastFor l tvs).getD (σ l) := by
  rw [impl_reads_first, go_reads_last]

/-- the open finding `tuple-assignment-same-key` as a theorem about the model: `m[k], m[k] = 1, 2` -/
example : runOn false [0] [(some 0, 1), (some 0, 2)] = [1] ∧ runOn true [0] [(some 0, 1), (some 0, 2)] = [2] := by
  decide

/-- non-vacuity: two distinct locations and a blank target satisfy `Distinct` -/
example : Distinct [((some 0 : Option Nat), (5 : Int)), (some 1, 6), (none, 7)] := by
  simp [Distinct, firstFor]

/-- the regenerated tie: compile's `case "="` still evaluates target operands, then the right-hand
    side once, then emits the stores in one loop from the last target to the first (goatx) -/
theorem tuple_tie : Gen.tupleStoresLastFirst = true := by decide

end Tuple

end Goat.Props.C10

#print axioms Goat.Props.C10.get_set
#print axioms Goat.Props.C10.get_delete
#print axioms Goat.Props.C10.len_set
#print axioms Goat.Props.C10.len_delete
#print axioms Goat.Props.C10.len_counts
#print axioms Goat.Props.C10.inv_history
#print axioms Goat.Props.C10.inv_ofList
#print axioms Goat.Props.C10.visit_is_live
#print axioms Goat.Props.C10.visits_nodup
#print axioms Goat.Props.C10.visits_complete
#print axioms Goat.Props.C10.range_contract
#print axioms Goat.Props.C10.history_refines
#print axioms Goat.Props.C10.len_refines
#print axioms Goat.Props.C10.go_reads_last
#print axioms Goat.Props.C10.impl_reads_first
#print axioms Goat.Props.C10.tuple_assign_distinct
#print axioms Goat.Props.C10.tuple_assign_differs_iff
#print axioms Goat.Props.C10.tuple_tie
