import Goat.Model.Backtrace
import Goat.Model.Peephole
import Goat.Props.C02
/-!
# C20 — run-time errors point at the failing line and the active call chain

* `report_eq_ancestors` — for every call tree (any depth, any branching, any position of the
  fault) the push/pop machine reports exactly the faulting position followed by the call sites
  that enclose it, innermost first; a run without fault leaves the backtrace stack as it found it
  (`balanced`), so nothing from a completed call ever shows up in a later report.
* `fused_pos_is_operator` (from C02's table: the fused instruction carries the position of its
  window's last instruction, the operator that can fail) and `doOpt_pos_from_input` /
  `optimize_pos_from_input` — the peephole passes never invent a position: every instruction of the optimized code carries the position of an
  instruction of the unoptimized code (the last of its window); hence code whose instructions all
  lie on one line reports that line with the optimizer on or off (`opt_same_line`), and a window
  spanning several lines reports its operator's line in both modes.

That the compiler stamps the right position on each instruction (and that in the one window with
two fallible instructions, LOCALGET GETATTR CALL, both carry one line) is the differential part of
the check (planted faults, also with the operator and its operands on different lines, optimizer on
and off).
-/
namespace Goat.Props.C20
open Goat.Backtrace

mutual
theorem exec_spec : ∀ (n : Node) (bt : List Nat),
    exec bt n = match spec n with
      | some r => .error { r with chain := r.chain ++ bt }
      | none => .ok bt
  | .op _, _ => rfl
  | .fault _, _ => rfl
  | .call site body, bt => by
    rw [exec, spec, execs_spec body (site :: bt)]
    cases specs body <;> simp
theorem execs_spec : ∀ (ns : Nodes) (bt : List Nat),
    execs bt ns = match specs ns with
      | some r => .error { r with chain := r.chain ++ bt }
      | none => .ok bt
  | .nil, _ => rfl
  | .cons n rest, bt => by
    rw [execs, specs, exec_spec n bt]
    cases spec n with
    | some r => rfl
    | none => exact execs_spec rest bt
end

/-- **report_eq_ancestors.** Started with an empty backtrace, the machine's report is the
    specification's: the failing position and its enclosing call sites, innermost first. -/
theorem report_eq_ancestors (prog : Nodes) :
    execs [] prog = match specs prog with
      | some r => .error r
      | none => .ok [] := by
  rw [execs_spec]
  cases specs prog <;> simp

/-- **balanced.** Code that completes leaves the backtrace stack exactly as it was. -/
theorem balanced (ns : Nodes) (bt : List Nat) (h : specs ns = none) : execs bt ns = .ok bt := by
  rw [execs_spec, h]

open Goat.Peephole

/-- **doOpt_pos_from_input.** One peephole pass never invents a position: every instruction it
    emits carries the position of an instruction of its input (for a fused instruction: of its
    window). -/
theorem doOpt_pos_from_input (rs : List Gen.Rule) (hr : ∀ r ∈ rs, r.pos < r.lhs.length) (l : List Instr) :
    ∀ i ∈ doOpt rs l, ∃ j ∈ l, i.pos = j.pos := by
  intro i hi
  rcases mem_doOpt hi with h | ⟨r, hmem, w, hw, hf, rfl⟩
  · exact ⟨i, h, rfl⟩
  · -- the fused instruction: the position of an instruction of the window
    have hlt : r.pos < w.length := Nat.lt_of_lt_of_le (hr r hmem) (fires_len hf)
    exact ⟨w[r.pos], hw.subset (List.getElem_mem hlt), build_pos_of_lt hlt⟩

theorem optimize_pos_from_input (l : List Instr) : ∀ i ∈ optimize l, ∃ j ∈ l, i.pos = j.pos :=
  optimize_induct (M := fun l' => ∀ i ∈ l', ∃ j ∈ l, i.pos = j.pos)
    (fun l' h i hi => by
      obtain ⟨j, hj, e⟩ := doOpt_pos_from_input rules (fun r hr => by have := Goat.Props.C02.rule_pos r hr; omega) l' i hi
      obtain ⟨k, hk, e'⟩ := h j hj
      exact ⟨k, hk, e.trans e'⟩)
    fun i hi => ⟨i, hi, rfl⟩

/-- **fused_pos_is_operator.** Whenever a rule of the table fires, the instruction it emits carries
    the position of the LAST instruction of the window it replaces. In every window that is the
    operator that can fail (GET, SET, CALL, ADD …, SETATTR; in LOCALGET GETATTR CALL the selection is
    stamped by the compiler with the selected name, which stands directly before the call's "("),
    preceded by operand loads, so the optimized code reports a fault at the position the
    unoptimized code reports it — wherever the line breaks of the statement are. -/
theorem fused_pos_is_operator (l : List Instr) (i : Instr) (k : Nat)
    (h : matchAt Gen.peephole l = some (i, k)) :
    ∃ j, l[k - 1]? = some j ∧ i.pos = j.pos ∧ 0 < k := by
  obtain ⟨r, hmem, hf, rfl, rfl⟩ := matchAt_some h
  obtain ⟨j, hj, e⟩ := Goat.Props.C02.build_pos r hmem l hf
  exact ⟨j, hj, e, (fact_len r hmem).1⟩

/-- **opt_same_line.** Code whose instructions all carry one position reports that position with
    the optimizer on or off. -/
theorem opt_same_line (l : List Instr) (p : Nat) (h : ∀ j ∈ l, j.pos = p) : ∀ i ∈ optimize l, i.pos = p := by
  intro i hi
  obtain ⟨j, hj, e⟩ := optimize_pos_from_input l i hi
  rw [e]; exact h j hj

/-- one 16-bit field `y` below a word `x`: how it is put there and how it is read back -/
theorem or_field (x : Nat) {y : Nat} (h : y < 65536) : x <<< 16 ||| y = x * 65536 + y := by
  rw [← Nat.shiftLeft_add_eq_or_of_lt h, Nat.shiftLeft_eq]

theorem shr_field (x : Nat) {y : Nat} (h : y < 65536) : (x * 65536 + y) >>> 16 = x := by
  rw [Nat.shiftRight_eq_div_pow, Nat.mul_comm]
  exact (Nat.mul_add_div (by decide) x y).trans (by rw [Nat.div_eq_of_lt h]; rfl)

theorem and_field (x : Nat) {y : Nat} (h : y < 65536) : (x * 65536 + y) &&& 0xffff = y := by
  rw [Nat.and_two_pow_sub_one_eq_mod _ 16, Nat.mul_comm]
  exact (Nat.mul_add_mod ..).trans (Nat.mod_eq_of_lt h)

/-- the position word, field below field -/
theorem packPos_eq (fi gi line col : Nat) (hg : gi < 65536) :
    packPos fi gi line col = ((fi * 65536 + gi) * 65536 + min line 65535) * 65536 + min col 65535 := by
  rw [← or_field _ hg, ← or_field _ (y := min line 65535) (by omega), ← or_field _ (y := min col 65535) (by omega)]
  simp only [packPos, Nat.shiftLeft_or_distrib, ← Nat.shiftLeft_add]

theorem packPos_arith (fi gi line col : Nat) (hg : gi < 65536) :
    packPos fi gi line col = fi * 2^48 + gi * 2^32 + (min line 65535) * 2^16 + min col 65535 := by
  rw [packPos_eq fi gi line col hg]
  simp only [Nat.add_mul, Nat.mul_assoc]

theorem posInfo_fields (f g l c : Nat) (hf : f < 65536) (hg : g < 65536) (hl : l < 65536) (hc : c < 65536) :
    posInfo (((f * 65536 + g) * 65536 + l) * 65536 + c) = (f, g, l, c) := by
  simp only [posInfo, show (48 : Nat) = 16 + 16 + 16 from rfl, show (32 : Nat) = 16 + 16 from rfl, Nat.shiftRight_add,
    shr_field _ hc, shr_field _ hl, shr_field _ hg, and_field _ hc, and_field _ hl, and_field _ hg,
    Nat.and_two_pow_sub_one_eq_mod f 16, Nat.mod_eq_of_lt hf]

theorem satIdx_lt (i : Nat) : satIdx i < 65536 := by unfold satIdx; split <;> omega

/-- **pos_fields.** For EVERY file-name index, function-name index, line and column - also beyond
    65535 - the error handler reads back name indices that were really packed: an index inside the
    name table comes back unchanged, one past its end comes back as 0 (the entry that names nothing),
    and line and column come back exact below 65536 and saturated above. No field spills into a
    neighbour, so a long file, a long line or a program with very many names cannot make the handler
    name another function or file, nor look up a name that does not exist (which, inside the
    deferred recover, would be a panic escaping to the host). -/
theorem pos_fields (fi gi line col : Nat) :
    posInfo (newPos fi gi line col) = (satIdx fi, satIdx gi, min line 65535, min col 65535) := by
  rw [newPos, packPos_eq _ _ _ _ (satIdx_lt gi)]
  exact posInfo_fields _ _ _ _ (satIdx_lt fi) (satIdx_lt gi) (by omega) (by omega)

theorem pos_fields_small (fi gi line col : Nat) (hf : fi < 65536) (hg : gi < 65536) :
    posInfo (newPos fi gi line col) = (fi, gi, min line 65535, min col 65535) := by
  rw [pos_fields, satIdx, satIdx, if_neg (Nat.not_lt.2 (Nat.le_of_lt_succ hf)), if_neg (Nat.not_lt.2 (Nat.le_of_lt_succ hg))]

example : posInfo (newPos 70000 7 3 12) = (0, 7, 3, 12) := by decide
example : posInfo (newPos 3 7 70000 12) = (3, 7, 65535, 12) := by decide

/-! ### non-vacuity: main → f (line 10) → g (line 20) → fault at 31, after a completed call to h -/

def tree : Nodes :=
  .cons (.op 1) (.cons (.call 2 (.cons (.op 40) .nil))          -- h() returns
    (.cons (.call 10 (.cons (.op 19) (.cons (.call 20 (.cons (.op 30) (.cons (.fault 31) .nil))) .nil)))
      (.cons (.op 3) .nil)))

example : execs [] tree = .error { at_ := 31, chain := [20, 10] } := by rfl
example : specs tree = some { at_ := 31, chain := [20, 10] } := by decide

end Goat.Props.C20

#print axioms Goat.Props.C20.exec_spec
#print axioms Goat.Props.C20.report_eq_ancestors
#print axioms Goat.Props.C20.balanced
#print axioms Goat.Props.C20.doOpt_pos_from_input
#print axioms Goat.Props.C20.optimize_pos_from_input
#print axioms Goat.Props.C20.fused_pos_is_operator
#print axioms Goat.Props.C20.pos_fields
#print axioms Goat.Props.C20.opt_same_line
