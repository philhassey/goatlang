import Goat.Model.Host
import Goat.Lemmas.Protocol
/-!
# C19 — the embedding API passes values faithfully in both directions

For every caller stack prefix `S` (whatever else is on the stack: a native call nested inside an
expression, any depth) and every argument list `A` of the declared length:

* `adapter_spec` — each of the six `NewFunc` adapters hands the native exactly `A`, in order
  (`fVar`: the fixed arguments followed by the unpacked variadic ones), leaves `S` untouched and
  appends the results in order;
* `native_call` — through `callReady` the caller receives exactly the first `xRets` results, or an
  error if the native returned fewer; a wrong argument count is an error;
* `variadic_native` — surplus arguments of a variadic native arrive, in order, after the fixed ones;
* `vmFunc_results` — `VM.Func` / `VM.Call` return exactly the requested number of results;
* `error_surfaces`, `vmFunc_error` — a native that panics makes the outer call fail (no partial stack
  is returned), and `vmFunc` of a failing callee fails.
-/
namespace Goat.Props.C19
open Goat.Host Goat.Protocol

variable {V : Type}

/-- what the native should see and what should come back -/
def seenArgs (n : Native V) (A : List V) : List V :=
  match n.form with
  | .f00 | .f01 => []
  | .fVar => A.take (n.argc - 1) ++ (match A.getLast? with | some l => n.unpack l | none => [])
  | _ => A

def pushed (n : Native V) (r : List V) : List V :=
  match n.form with
  | .f00 | .fN0 => []
  | .f01 | .fN1 => r.take 1
  | _ => r

def consumes (n : Native V) : Bool :=
  match n.form with
  | .f00 => false
  | _ => true

theorem adapter_spec (n : Native V) (S A : List V) (hA : A.length = n.argc)
    (h0 : n.form = .fVar → 0 < n.argc) :
    adapter n (S ++ A) =
      (n.body (seenArgs n A)).map fun r => (if consumes n then S else S ++ A) ++ pushed n r := by
  unfold adapter seenArgs pushed consumes
  cases hf : n.form <;>
    simp only [length_append_sub hA, List.take_left, List.drop_left, if_true, Bool.false_eq_true,
      if_false, List.append_nil]
  -- only `fVar` is left: with `0 < argc` there is a last argument
  cases hl : A.getLast? with
  | some => rfl
  | none =>
    rw [List.getLast?_eq_none_iff.mp hl] at hA
    exact absurd (h0 hf) (hA ▸ Nat.lt_irrefl 0)

/-! `callReady` and `call` are the generic wrappers around `adapter n` -/

theorem callReady_eq_ready (n : Native V) : callReady n = ready (adapter n) n.argc := rfl

theorem call_eq_packed (mkSlice : List V → V) (n : Native V) (xArgs xRets : Nat) :
    call mkSlice n xArgs xRets = packed (isVariadic n) mkSlice n.argc (callReady n · xRets) xArgs := rfl

theorem native_call (n : Native V) (S A : List V) (hA : A.length = n.argc) (xRets : Nat)
    (hc : consumes n = true) (h0 : n.form = .fVar → 0 < n.argc) :
    callReady n n.argc xRets (S ++ A) =
      match n.body (seenArgs n A) with
      | none => none
      | some r => if (pushed n r).length < xRets then none else some (S ++ (pushed n r).take xRets) := by
  have h := adapter_spec n S A hA h0
  rw [if_pos hc] at h
  rw [callReady_eq_ready]
  cases hb : n.body (seenArgs n A) <;> rw [hb] at h
  · exact ready_none hA xRets h
  · exact ready_some hA xRets h

theorem wrong_arg_count (n : Native V) (xArgs xRets : Nat) (stack : List V) (h : xArgs ≠ n.argc) :
    callReady n xArgs xRets stack = none :=
  if_pos h

/-- **variadic_native.** `fixed ++ extra` arguments (any number of extras, also none): the native
    sees `fixed ++ extra` provided unpacking a packed slice gives its elements back. -/
theorem variadic_native (mkSlice : List V → V) (n : Native V) (hv : n.form = .fVar)
    (hround : ∀ l, n.unpack (mkSlice l) = l)
    (S fixed extra : List V) (hf : fixed.length + 1 = n.argc) (xRets : Nat) :
    call mkSlice n (fixed.length + extra.length) xRets (S ++ fixed ++ extra) =
      match n.body (fixed ++ extra) with
      | none => none
      | some r => if r.length < xRets then none else some (S ++ r.take xRets) := by
  have hvar : isVariadic n = true := by rw [isVariadic, hv]; rfl
  have hA : (fixed ++ [mkSlice extra]).length = n.argc := by rw [List.length_append]; exact hf
  have hseen : seenArgs n (fixed ++ [mkSlice extra]) = fixed ++ extra := by
    simp only [seenArgs, hv, List.getLast?_concat, hround, ← hf, Nat.add_sub_cancel, List.take_left]
  rw [call_eq_packed, hvar]
  refine (packed_spec mkSlice (callReady n · xRets) S fixed extra hf).trans ?_
  rw [native_call n S _ hA xRets (by rw [consumes, hv]) (fun _ => hf ▸ Nat.succ_pos _), hseen]
  simp only [pushed, hv]

/-- **vmFunc_results.** If the callee, run on the fresh stack holding just the parameters, leaves
    exactly `xRets` results, `VM.Func` returns exactly those. -/
theorem vmFunc_results (callee : Nat → Nat → List V → Option (List V)) (xRets : Nat) (params R : List V)
    (hR : R.length = xRets) (h : callee params.length xRets params = some R) :
    vmFunc callee xRets params = some R := by
  simp [vmFunc, h, hR]

/-- through a native: `VM.Func(native, xRets, A...)` returns the first `xRets` results -/
theorem vmFunc_native (n : Native V) (A : List V) (hA : A.length = n.argc) (xRets : Nat)
    (hc : consumes n = true) (h0 : n.form = .fVar → 0 < n.argc) (r : List V)
    (hb : n.body (seenArgs n A) = some r) (hx : xRets ≤ (pushed n r).length) :
    vmFunc (fun xa xr st => callReady n xa xr st) xRets A = some ((pushed n r).take xRets) := by
  refine vmFunc_results _ xRets A _ (List.length_take.trans (Nat.min_eq_left hx)) ?_
  rw [hA]
  exact (native_call n [] A hA xRets hc h0).trans (by rw [hb]; exact if_neg (Nat.not_lt.mpr hx))

theorem error_surfaces (n : Native V) (S A : List V) (hA : A.length = n.argc) (xRets : Nat)
    (h0 : n.form = .fVar → 0 < n.argc) (hb : n.body (seenArgs n A) = none) :
    callReady n n.argc xRets (S ++ A) = none := by
  have h := adapter_spec n S A hA h0
  rw [hb] at h
  exact ready_none hA xRets h

theorem vmFunc_error (callee : Nat → Nat → List V → Option (List V)) (xRets : Nat) (params : List V)
    (h : callee params.length xRets params = none) : vmFunc callee xRets params = none := by
  simp [vmFunc, h]

/-! ### non-vacuity -/

def swap2 : Native Nat := { form := .fNM, argc := 2, body := fun a => some a.reverse, unpack := fun _ => [] }
def sumVar : Native Nat := { form := .fVar, argc := 2, body := fun a => some [a.foldl (· + ·) 0, a.length], unpack := fun v => List.replicate v 1 }

-- the value form registered with an arity: the arguments are dropped, the result is delivered (fix b462b86)
example : callReady ({ form := .f01, argc := 2, body := fun _ => some [99], unpack := fun _ => [] } : Native Nat) 2 1 [7, 1, 2] = some [7, 99] := by decide
example : callReady swap2 2 2 [7, 8, 1, 2] = some [7, 8, 2, 1] := by decide
example : callReady swap2 2 1 [7, 8, 1, 2] = some [7, 8, 2] := by decide
example : callReady swap2 2 3 [7, 8, 1, 2] = none := by decide
example : callReady swap2 1 1 [7, 8, 1, 2] = none := by decide
-- variadic: fixed [10], extras packed as "3" which unpacks to [1,1,1]
example : call (fun l => l.length) sumVar 4 2 [9, 10, 1, 1, 1] = some [9, 13, 4] := by decide
example : vmFunc (fun xa xr st => callReady swap2 xa xr st) 2 [1, 2] = some [2, 1] := by decide

end Goat.Props.C19

#print axioms Goat.Props.C19.adapter_spec
#print axioms Goat.Props.C19.native_call
#print axioms Goat.Props.C19.wrong_arg_count
#print axioms Goat.Props.C19.variadic_native
#print axioms Goat.Props.C19.vmFunc_results
#print axioms Goat.Props.C19.vmFunc_native
#print axioms Goat.Props.C19.error_surfaces
#print axioms Goat.Props.C19.vmFunc_error
