import Goat.Model.Incr
/-!
# C18 — incremental evaluation equals whole-program evaluation

In the model of `Eval` everything a top-level statement can read or change is in the persistent
state `σ` (global variables, global functions with late-bound bodies, output); the values of
expression statements are only appended to the call's result list. Then:

* `chunk_append` — evaluating `a ++ b` in one call is evaluating `a`, then `b` from the resulting
  state, and concatenating the returned values;
* `incremental_eq_whole` — for **every** way of cutting a program into consecutive chunks, feeding
  the chunks to successive `Eval` calls gives exactly the result of one call on the whole
  program: same output, same globals, same returned values — including the case that both fail;
* `statement_at_a_time` — in particular one statement per call.

The theorem is about the model; that goatlang's `Eval` behaves like the model (nothing else is
carried from one top-level statement to the next: local slots, jump offsets, the operand stack) is
what the correspondence and the whole-versus-chunked differential check.
-/
namespace Goat.Props.C18
open Goat.Incr

section
variable (x : Option (State × List Int)) (g k : State → Option (State × List Int))

/-- what `evalChunk` and `evalChunks` do at each element: continue with `g` from the state that
    `x` left and concatenate the returned values; an error in either aborts. By unfolding,
    `evalChunk s (it :: r)` is `andThen (step s it) (evalChunk · r)`, and likewise `evalChunks`. -/
def andThen : Option (State × List Int) :=
  x.bind fun p => (g p.1).bind fun q => some (q.1, p.2 ++ q.2)

theorem andThen_unit (s : State) : andThen (some (s, [])) g = g s := by
  rw [andThen, Option.bind_some]
  cases g s <;> rfl

theorem andThen_assoc : andThen (andThen x g) k = andThen x fun s => andThen (g s) k := by
  simp only [andThen, Option.bind_assoc, Option.bind_some, List.append_assoc]

end

theorem chunk_append (s : State) (a b : List Item) :
    evalChunk s (a ++ b) = (do
      let (s1, r1) ← evalChunk s a
      let (s2, r2) ← evalChunk s1 b
      pure (s2, r1 ++ r2)) := by
  show _ = andThen (evalChunk s a) (evalChunk · b)
  induction a generalizing s with
  | nil => exact (andThen_unit (evalChunk · b) s).symm
  | cons it rest ih =>
    exact (congrArg (andThen (step s it)) (funext ih)).trans (andThen_assoc _ (evalChunk · rest) _).symm

theorem incremental_eq_whole (s : State) (chunks : List (List Item)) :
    evalChunks s chunks = evalChunk s chunks.flatten := by
  induction chunks generalizing s with
  | nil => rfl
  | cons c rest ih =>
    rw [List.flatten_cons, chunk_append]
    exact congrArg (andThen _) (funext ih)

/-- one statement per `Eval` call -/
theorem statement_at_a_time (s : State) (prog : List Item) :
    evalChunks s (prog.map fun it => [it]) = evalChunk s prog := by
  rw [incremental_eq_whole, ← List.flatMap_def, List.flatMap_singleton']

/-- two different cuttings of the same program agree -/
theorem cut_independent (s : State) (c1 c2 : List (List Item)) (h : c1.flatten = c2.flatten) :
    evalChunks s c1 = evalChunks s c2 := by
  rw [incremental_eq_whole, incremental_eq_whole, h]

/-! ### non-vacuity: a program with a late-bound function, a loop and returned values -/

def prog : List Item :=
  [.defv "x" (.lit 1), .func "f" (.add (.var "x") (.lit 1)), .print (.call "f"), .setv "x" (.lit 5),
   .expr (.call "f"), .loop 4 "x", .expr (.var "x"), .ifpos (.sub (.var "x") (.lit 10)) "x" (.lit 0), .print (.var "x")]

example : (evalChunk {} prog).map (fun r => (r.1.out, r.2)) = some ([2, 0], [6, 11]) := by decide
example : (evalChunks {} [prog.take 2, prog.drop 2 |>.take 3, prog.drop 5]).map (fun r => (r.1.out, r.2)) = some ([2, 0], [6, 11]) := by decide
-- a use before the definition fails in both modes
example : evalChunk {} [.print (.call "g"), .func "g" (.lit 7)] = none := by decide

end Goat.Props.C18

#print axioms Goat.Props.C18.chunk_append
#print axioms Goat.Props.C18.incremental_eq_whole
#print axioms Goat.Props.C18.statement_at_a_time
#print axioms Goat.Props.C18.cut_independent
