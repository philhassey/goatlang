import Goat.Model.Num
/-!
# C04 — fixed-width numeric semantics equal Go's for every operand value

`Goat.Num` transcribes value.go's arms; the tags come from the table regenerated from value.go.
Go's semantics of the fixed-width types is two's-complement `BitVec` arithmetic
(`GoNum` below); every theorem holds for *all* operand values, not the sampled ones.
-/
namespace Goat.Props.C04
open Goat.Num

/-! ### Go's fixed-width integer types -/

inductive Ty where | u8 | i8 | u32 | i32
  deriving DecidableEq, Repr

def Ty.tag : Ty → Nat
  | .u8 => tU8 | .i8 => tI8 | .u32 => tU32 | .i32 => tI32
def Ty.width : Ty → Nat
  | .u8 | .i8 => 8
  | .u32 | .i32 => 32
def Ty.signed : Ty → Bool
  | .i8 | .i32 => true
  | .u8 | .u32 => false

/-- the values of the type -/
def Ty.inRange (ty : Ty) (n : Int) : Prop :=
  if ty.signed then -(2 ^ (ty.width - 1) : Int) ≤ n ∧ n < 2 ^ (ty.width - 1)
  else 0 ≤ n ∧ n < 2 ^ ty.width

namespace GoNum
/-- a Go value of type `ty` as the machine word it is -/
def ofZ (ty : Ty) (n : Int) : BitVec ty.width := BitVec.ofInt ty.width n
/-- the integer a machine word denotes in type `ty` -/
def toZ (ty : Ty) (v : BitVec ty.width) : Int := if ty.signed then v.toInt else v.toNat
/-- Go's binary operators on `ty`: wrap-around + - *, truncated / %, bitwise & | ^ -/
def bin (ty : Ty) (op : Op) (a b : Int) : Int := toZ ty (op.bv ty.width ty.signed (ofZ ty a) (ofZ ty b))
/-- Go's shifts: `<<` drops the high bits, `>>` is arithmetic on signed and logical on unsigned
    types; the count is an unbounded natural number -/
def shl (ty : Ty) (a : Int) (n : Nat) : Int := toZ ty (ofZ ty a <<< n)
def shr (ty : Ty) (a : Int) (n : Nat) : Int :=
  toZ ty (if ty.signed then (ofZ ty a).sshiftRight n else ofZ ty a >>> n)
/-- conversion to `ty` from any integer value: keep the low bits -/
def conv (ty : Ty) (n : Int) : Int := toZ ty (ofZ ty n)
end GoNum

/-! ### facts about the regenerated tag table (kernel evaluation) -/

/-- the generated table is evaluated here, once: the other tag facts are arithmetic on these numerals -/
theorem tag_values : tU8 = 3 ∧ tI8 = 19 ∧ tU32 = 7 ∧ tI32 = 23 ∧ tF64 = 31 ∧ tUntyped = 1 ∧ tNil = 0 := by decide +kernel

private theorem t_nil : tNil = 0 := tag_values.2.2.2.2.2.2

/-- the tags are the expected bit masks; OR-ing a typed tag with itself or with the untyped tag
    gives the typed tag, float64 absorbs every numeric tag, and the five numeric tags, the untyped
    tag and nil are pairwise distinct -/
theorem tags_mix :
    (∀ ty : Ty, mixType ty.tag ty.tag = ty.tag ∧ mixType ty.tag tUntyped = ty.tag ∧
       mixType tUntyped ty.tag = ty.tag ∧ mixType ty.tag tF64 = tF64 ∧ mixType tF64 ty.tag = tF64) ∧
    mixType tUntyped tUntyped = tUntyped ∧ mixType tUntyped tF64 = tF64 ∧ mixType tF64 tUntyped = tF64 ∧
    [tU8, tI8, tU32, tI32, tF64, tUntyped, tNil].Nodup := by
  refine ⟨fun ty => ?_, ?_⟩
  · cases ty <;> simp only [Ty.tag, tag_values] <;> decide
  · simp only [tag_values]; decide

/-- CAST is emitted for every numeric declared type -/
theorem cast_types : Gen.castTypes = ["TypeUint8", "TypeInt8", "TypeUint32", "TypeInt32", "TypeFloat64"] := rfl

theorem tag_ne (ty : Ty) : ty.tag ≠ tUntyped ∧ ty.tag ≠ tNil ∧ ty.tag ≠ tF64 := by
  cases ty <;> simp only [Ty.tag, tag_values] <;> decide

/-- the `switch` on the type tag in value.go's operators, in the order it tests the tags: on the tag of
    a fixed-width type it runs that type's arm -/
theorem tag_chain {α : Type} (ty : Ty) (arm : Ty → α) (f d : α) :
    (if ty.tag = tF64 then f else if ty.tag = tI32 then arm .i32 else if ty.tag = tU32 then arm .u32
      else if ty.tag = tI8 then arm .i8 else if ty.tag = tU8 then arm .u8 else d) = arm ty := by
  cases ty <;> simp [Ty.tag, tag_values]

/-! The theorems below hold for every operand value.
 * `binop_arm`/`binop_typed`: on operands whose tags OR to a fixed-width type the result carries
   that type and is the value Go defines (wrap-around + - *, truncated / %, bitwise & | ^);
   integer division by zero is an error (`none`), as Go panics.
 * `untyped_adopts`: an untyped constant on either side behaves as if declared with the other
   operand's type.
 * `shift_typed`: shifts keep the left operand's type whatever the count's type, compute Go's
   `<<`/`>>` (arithmetic on signed, logical on unsigned); a negative count is an error.
 * `convert_int`, `conv_inRange`, `assign_untyped`, `assign_typed`: conversions keep the low bits;
   stores convert representable untyped constants to the declared type and leave typed values alone.
 * `complement_typed`, `incdec_typed`, `negate_typed`: `^x`, `x++ / x += k / x + k`, `-x`. -/

/-- arm selection: whenever the OR of the operand tags is a typed integer tag, that type's arm runs -/
theorem binop_arm (ty : Ty) (op : Op) (ta tb : Nat) (a b : Int) (h : mixType ta tb = ty.tag) :
    binop op (.int ta a) (.int tb b) =
      if op.isDivMod = true ∧ GoNum.toZ ty (GoNum.ofZ ty b) = 0 then none
      else some (.int ty.tag (GoNum.bin ty op a b)) := by
  unfold binop
  dsimp only [Val.tag]
  rw [h]
  refine (tag_chain ty (fun ty' => if (op.isDivMod && decide (GoNum.toZ ty' (GoNum.ofZ ty' b) = 0)) = true
    then none else some (Val.int ty.tag (GoNum.bin ty' op a b))) _ _).trans ?_
  simp only [Bool.and_eq_true, decide_eq_true_eq]

theorem binop_typed (ty : Ty) (op : Op) (a b : Int) :
    binop op (.int ty.tag a) (.int ty.tag b) =
      if op.isDivMod = true ∧ GoNum.toZ ty (GoNum.ofZ ty b) = 0 then none
      else some (.int ty.tag (GoNum.bin ty op a b)) :=
  binop_arm ty op _ _ a b (tags_mix.1 ty).1

theorem untyped_adopts (ty : Ty) (op : Op) (k b : Int) :
    binop op (.int tUntyped k) (.int ty.tag b) = binop op (.int ty.tag k) (.int ty.tag b) ∧
    binop op (.int ty.tag b) (.int tUntyped k) = binop op (.int ty.tag b) (.int ty.tag k) := by
  constructor
  · rw [binop_arm ty op _ _ k b (tags_mix.1 ty).2.2.1, binop_typed]
  · rw [binop_arm ty op _ _ b k (tags_mix.1 ty).2.1, binop_typed]

theorem convert_int (ty : Ty) (st : Nat) (n : Int) :
    convert (.int st n) ty.tag = some (.int ty.tag (GoNum.conv ty n)) := by
  cases ty <;> simp [convert, Ty.tag, tag_values] <;> rfl

theorem assign_typed (ty : Ty) (n : Int) (t : Nat) : assign (.int ty.tag n) t = .int ty.tag n := by
  obtain ⟨h1, h2, h3⟩ := tag_ne ty
  unfold assign
  simp only [Val.tag, h1, h2, h3, false_and, if_false, ne_eq, not_false_eq_true, if_true, ite_self]

/-- a float64 that reaches an integer slot (in a valid program: a constant spelled like a float, `1e6` or `2.0`)
    takes the slot's type, wrapping like every conversion to that type -/
theorem assign_float_const (ty : Ty) (x : Float) :
    assign (.flt x) ty.tag = .int ty.tag (GoNum.conv ty (f2i x)) := by
  cases ty <;> simp [assign, Val.tag, Ty.tag, tag_values] <;> rfl

theorem complement_typed (ty : Ty) (x : Int) :
    complement (.int ty.tag x) = some (.int ty.tag (GoNum.toZ ty (GoNum.ofZ ty x ^^^ BitVec.allOnes ty.width))) := by
  have hm : GoNum.ofZ ty (GoNum.conv ty 0xffffffff) = BitVec.allOnes ty.width := by cases ty <;> decide
  unfold complement
  simp only [Val.tag, (tag_ne ty).1, assign_typed, convert_int, binop_typed]
  simp [Op.isDivMod, GoNum.bin, Op.bv, hm]

theorem shift_typed (ty : Ty) (left : Bool) (x : Int) (ct : Nat) (cnt : Int) :
    shift left (.int ty.tag x) (.int ct cnt) =
      if cnt < 0 then none
      else some (.int ty.tag (if left then GoNum.shl ty x (min cnt.toNat ty.width)
                               else GoNum.shr ty x (min cnt.toNat ty.width))) := by
  unfold shift
  dsimp only [Val.toInt]
  by_cases h : cnt < 0
  · rw [if_pos h, if_pos h]
  · rw [if_neg h, if_neg h]
    cases left
    · exact tag_chain ty (fun ty' => some (Val.int ty.tag (GoNum.shr ty' x (min cnt.toNat ty'.width)))) _ _
    · exact tag_chain ty (fun ty' => some (Val.int ty.tag (GoNum.shl ty' x (min cnt.toNat ty'.width)))) _ _

theorem conv_inRange (ty : Ty) (n : Int) (h : ty.inRange n) : GoNum.conv ty n = n := by
  unfold Ty.inRange at h
  unfold GoNum.conv GoNum.toZ GoNum.ofZ
  split
  · rw [if_pos ‹_›] at h
    exact BitVec.toInt_ofInt_eq_self (by cases ty <;> decide) h.1 h.2
  · rw [if_neg ‹_›] at h
    rw [BitVec.toNat_ofInt, Int.natCast_pow, Int.cast_ofNat_Int, Int.emod_eq_of_lt h.1 h.2,
      Int.toNat_of_nonneg h.1]

theorem assign_untyped (ty : Ty) (k : Int) (h : ty.inRange k) :
    assign (.int tUntyped k) ty.tag = .int ty.tag k := by
  unfold assign
  simp only [Val.tag, (tag_ne ty).1.symm, if_false, if_true]
  exact (tag_chain ty (fun ty' => Val.int ty.tag (GoNum.conv ty' k)) _ _).trans (by rw [conv_inRange ty k h])

/-- `x++`, `x--`, `x += k`, `x + k` (INCDEC k): Go's `x + T(k)` in x's own type -/
theorem incdec_typed (ty : Ty) (x k : Int) :
    incdec (.int ty.tag x) k = some (.int ty.tag (GoNum.bin ty .add x k)) := by
  unfold incdec
  rw [(untyped_adopts ty .add k x).2, binop_typed]
  simp [Op.isDivMod]

/-- unary minus (NEGATE): the VM multiplies by the untyped constant −1, in x's own type -/
theorem negate_typed (ty : Ty) (x : Int) :
    negate (.int ty.tag x) = some (.int ty.tag (GoNum.bin ty .mul x (-1))) := by
  unfold negate
  rw [(untyped_adopts ty .mul (-1) x).2, binop_typed]
  simp [Op.isDivMod]

/-- a count of the width or more shifts every bit out, so clamping the count is invisible -/
theorem shift_clamp_shl {w : Nat} (v : BitVec w) (n : Nat) : v <<< (min n w) = v <<< n := by
  rcases Nat.le_total n w with h | h
  · rw [Nat.min_eq_left h]
  · rw [Nat.min_eq_right h, BitVec.shiftLeft_eq_zero (Nat.le_refl w), BitVec.shiftLeft_eq_zero h]

theorem shift_clamp_ushr {w : Nat} (v : BitVec w) (n : Nat) : v >>> (min n w) = v >>> n := by
  rcases Nat.le_total n w with h | h
  · rw [Nat.min_eq_left h]
  · rw [Nat.min_eq_right h, BitVec.ushiftRight_eq_zero (Nat.le_refl w), BitVec.ushiftRight_eq_zero h]

/-- every operator result lies in the range of its type (hence its float64 carrier is exact) -/
theorem toZ_inRange (ty : Ty) (v : BitVec ty.width) : ty.inRange (GoNum.toZ ty v) := by
  unfold Ty.inRange GoNum.toZ
  split
  · exact ⟨BitVec.le_toInt v, BitVec.toInt_lt⟩
  · exact ⟨Int.natCast_nonneg _, by exact_mod_cast v.isLt⟩

theorem binop_wt (ty : Ty) (op : Op) (a b : Int) (r : Val)
    (h : binop op (.int ty.tag a) (.int ty.tag b) = some r) : ∃ n, r = .int ty.tag n ∧ ty.inRange n := by
  rw [binop_typed] at h
  split at h
  · cases h
  · cases h; exact ⟨_, rfl, toZ_inRange ty _⟩

/-! ### what the BitVec operators mean on integers (the wrap-around laws of the Go spec) -/

theorem add_wraps (w : Nat) (a b : Int) :
    (BitVec.ofInt w a + BitVec.ofInt w b).toInt = (a + b).bmod (2 ^ w) := by simp
theorem sub_wraps (w : Nat) (a b : Int) :
    (BitVec.ofInt w a - BitVec.ofInt w b).toInt = (a - b).bmod (2 ^ w) := by simp
theorem mul_wraps (w : Nat) (a b : Int) :
    (BitVec.ofInt w a * BitVec.ofInt w b).toInt = (a * b).bmod (2 ^ w) := by simp
/-- signed division truncates toward zero (and the one overflowing case wraps) -/
theorem div_truncates (w : Nat) (a b : BitVec w) :
    (a.sdiv b).toInt = (a.toInt.tdiv b.toInt).bmod (2 ^ w) := BitVec.toInt_sdiv a b
/-- signed remainder takes the sign of the dividend -/
theorem rem_truncates (w : Nat) (a b : BitVec w) : (a.srem b).toInt = a.toInt.tmod b.toInt := BitVec.toInt_srem a b
theorem udiv_floor (w : Nat) (a b : BitVec w) : (a.udiv b).toNat = a.toNat / b.toNat := BitVec.toNat_udiv
theorem umod_floor (w : Nat) (a b : BitVec w) : (a.umod b).toNat = a.toNat % b.toNat := BitVec.toNat_umod

/-- comparisons of typed values compare the integers they denote -/
theorem lt_typed (t : Nat) (a b : Int) : lt (.int t a) (.int t b) = mkBool (decide (a < b)) := rfl
theorem lte_typed (t : Nat) (a b : Int) : lte (.int t a) (.int t b) = mkBool (decide (a ≤ b)) := rfl
theorem eq_typed (t : Nat) (a b : Int) : eqNum (.int t a) (.int t b) = mkBool (decide (a = b)) := rfl

/-! ### non-vacuity: the boundary cases the suite never samples -/

-- each is an instance of a theorem above with Go's side evaluated by the kernel; evaluating `binop`
-- itself would look every tag up in the generated table again
example : binop .add (.int tU8 255) (.int tUntyped 1) = some (.int tU8 0) :=
  (untyped_adopts .u8 .add 1 255).2.trans (binop_typed .u8 .add 255 1)
example : incdec (.int tU8 255) 1 = some (.int tU8 0) := incdec_typed .u8 255 1
example : binop .add (.int tI8 100) (.int tI8 100) = some (.int tI8 (-56)) := binop_typed .i8 .add 100 100
example : incdec (.int tU32 0) (-1) = some (.int tU32 4294967295) := incdec_typed .u32 0 (-1)
example : binop .div (.int tI32 (-2147483648)) (.int tI32 (-1)) = some (.int tI32 (-2147483648)) :=
  binop_typed .i32 .div _ _
example : binop .mod (.int tI8 (-7)) (.int tI8 3) = some (.int tI8 (-1)) := binop_typed .i8 .mod _ _
example : binop .div (.int tI32 5) (.int tI32 0) = none := binop_typed .i32 .div 5 0
example : shift true (.int tU8 200) (.int tI32 1) = some (.int tU8 144) := shift_typed .u8 true 200 tI32 1
example : shift false (.int tI8 (-128)) (.int tU32 3) = some (.int tI8 (-16)) :=
  shift_typed .i8 false (-128) tU32 3
example : assign (.int tUntyped 4000000000) tU32 = .int tU32 4000000000 :=
  assign_untyped .u32 _ ⟨by decide, by decide⟩
example : Ty.inRange .u8 255 ∧ Ty.inRange .i8 (-128) := by simp [Ty.inRange, Ty.signed, Ty.width]

end Goat.Props.C04

#print axioms Goat.Props.C04.tags_mix
#print axioms Goat.Props.C04.tag_values
#print axioms Goat.Props.C04.cast_types
#print axioms Goat.Props.C04.binop_arm
#print axioms Goat.Props.C04.binop_typed
#print axioms Goat.Props.C04.untyped_adopts
#print axioms Goat.Props.C04.incdec_typed
#print axioms Goat.Props.C04.negate_typed
#print axioms Goat.Props.C04.complement_typed
#print axioms Goat.Props.C04.shift_typed
#print axioms Goat.Props.C04.shift_clamp_shl
#print axioms Goat.Props.C04.shift_clamp_ushr
#print axioms Goat.Props.C04.convert_int
#print axioms Goat.Props.C04.conv_inRange
#print axioms Goat.Props.C04.assign_untyped
#print axioms Goat.Props.C04.assign_typed
#print axioms Goat.Props.C04.toZ_inRange
#print axioms Goat.Props.C04.binop_wt
#print axioms Goat.Props.C04.add_wraps
#print axioms Goat.Props.C04.div_truncates
#print axioms Goat.Props.C04.lt_typed
#print axioms Goat.Props.C04.assign_float_const
