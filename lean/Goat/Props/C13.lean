import Goat.Model.Str
/-!
# C13 — strings are immutable UTF-8 byte sequences with Go's operations
-/
namespace Goat.Props.C13
open Goat.Str

theorem isCont_iff {b : Nat} : isCont b = true ↔ 0x80 ≤ b ∧ b ≤ 0xBF := by simp [isCont]

/-- the second-byte bounds of the decoder are `if`s on the head byte: as implications `omega` can use them -/
theorem ite_le_iff {c : Prop} [Decidable c] {a b x : Nat} :
    (if c then a else b) ≤ x ↔ (c → a ≤ x) ∧ (¬ c → b ≤ x) := by split <;> simp [*]
theorem le_ite_iff {c : Prop} [Decidable c] {a b x : Nat} :
    x ≤ (if c then a else b) ↔ (c → x ≤ a) ∧ (¬ c → x ≤ b) := by split <;> simp [*]

theorem isCont_mod (x : Nat) : isCont (0x80 + x % 64) = true := isCont_iff.2 (by omega)

/-! `decode` on the two-, three- and four-byte form that `encode` writes. The head-byte tests
    go first; for the continuation bytes and the value the divisions are nested (`r / 4096 = r / 64 / 64`),
    so that `omega` sees the base-64 digits of `r` (nested earlier, every head-byte test pays for them). -/

theorem decode_two (r : Nat) (rest : Bytes) (lo : 0x80 ≤ r) (hi : r < 0x800) :
    decode ((0xC0 + r / 64) :: (0x80 + r % 64) :: rest) = (r, 2) := by
  unfold decode; dsimp only
  rw [if_neg (by omega), if_pos (by omega)]
  simp only [isCont_mod, if_true, Nat.add_sub_cancel_left, Nat.div_add_mod']

theorem decode_three (r : Nat) (rest : Bytes) (lo : 0x800 ≤ r) (hi : r < 0x10000) (hv : validRune r) :
    decode ((0xE0 + r / 4096) :: (0x80 + r / 64 % 64) :: (0x80 + r % 64) :: rest) = (r, 3) := by
  unfold validRune at hv
  unfold decode; dsimp only
  rw [if_neg (by omega), if_neg (by omega), if_pos (by omega), ← Nat.div_div_eq_div_mul r 64 64]
  simp only [isCont_mod, ite_le_iff, le_ite_iff, Nat.add_sub_cancel_left, and_true]
  rw [if_pos (by omega)]
  exact congrArg (·, 3) (by omega)

theorem decode_four (r : Nat) (rest : Bytes) (lo : 0x10000 ≤ r) (hv : validRune r) :
    decode ((0xF0 + r / 262144) :: (0x80 + r / 4096 % 64) :: (0x80 + r / 64 % 64) :: (0x80 + r % 64) :: rest) =
      (r, 4) := by
  unfold validRune at hv
  unfold decode; dsimp only
  rw [if_neg (by omega), if_neg (by omega), if_neg (by omega), if_pos (by omega),
    ← Nat.div_div_eq_div_mul r 4096 64, ← Nat.div_div_eq_div_mul r 64 64]
  simp only [isCont_mod, ite_le_iff, le_ite_iff, Nat.add_sub_cancel_left, and_true]
  rw [if_pos (by omega)]
  exact congrArg (·, 4) (by omega)

/-- **decode_encode.** Decoding the UTF-8 encoding of any Unicode scalar value, whatever follows
    it, gives the value back and consumes exactly its encoding. -/
theorem decode_encode (r : Nat) (rest : Bytes) (hv : validRune r) :
    decode (encode r ++ rest) = (r, (encode r).length) := by
  unfold encode
  split
  · exact if_pos ‹_›
  split
  · exact decode_two r rest (by omega) ‹_›
  split
  · exact decode_three r rest (by omega) ‹_› hv
  · exact decode_four r rest (by omega) hv

theorem ite_eq_imp {α : Type} {c Q : Prop} [Decidable c] {a b x : α} (ha : c → a = x → Q)
    (hb : b = x → Q) : (if c then a else b) = x → Q := by
  split
  · exact ha ‹_›
  · exact hb

theorem decode_sound {b0 : Nat} {rest : Bytes} {r w : Nat} :
    decode (b0 :: rest) = (r, w) → validRune r ∧ 1 ≤ w ∧ w ≤ (b0 :: rest).length := by
  have one : 1 ≤ 1 ∧ 1 ≤ (b0 :: rest).length := ⟨Nat.le_refl 1, Nat.succ_le_succ (Nat.zero_le _)⟩
  have err : (runeError, 1) = (r, w) → validRune r ∧ 1 ≤ w ∧ w ≤ (b0 :: rest).length := by
    rintro ⟨⟩; exact ⟨by decide, one⟩
  unfold decode validRune
  -- `ite_eq_imp` and not `split`: the negated head-byte ranges `split` would leave in the context are
  -- disjunctions, and every later `omega` branches on them
  refine ite_eq_imp (fun h => ?_) (ite_eq_imp ?_ (ite_eq_imp ?_ (ite_eq_imp ?_ err)))
  · rintro ⟨⟩; exact ⟨.inl (by omega), one⟩
  -- the three multi-byte shapes: enough bytes, the tests on them passed
  all_goals
    intro h0
    split
    · refine ite_eq_imp (fun h => ?_) err
      simp only [isCont_iff, ite_le_iff, le_ite_iff] at h
      intro e; obtain ⟨rfl, rfl⟩ := Prod.mk.inj e; exact ⟨by omega, by simp⟩
    · exact err

/-- the decoder always makes progress and never reads past the end -/
theorem decode_width (b : Nat) (bs : Bytes) :
    1 ≤ (decode (b :: bs)).2 ∧ (decode (b :: bs)).2 ≤ (b :: bs).length :=
  (decode_sound rfl).2

theorem decode_valid (bs : Bytes) : validRune (decode bs).1 := by
  cases bs with
  | nil => decide
  | cons => exact (decode_sound rfl).1

theorem encode_ne_nil (r : Nat) : encode r ≠ [] := by
  simp only [encode, apply_ite (· ≠ []), ne_eq, List.cons_ne_nil, not_false_eq_true, ite_self]

/-- offsets of the runes of an encoded sequence: running sums of the encoded widths -/
def offsets : Nat → List Nat → List (Nat × Nat)
  | _, [] => []
  | off, r :: rs => (off, r) :: offsets (off + (encode r).length) rs

theorem runesAux_encodeAll (rs : List Nat) (hv : ∀ r ∈ rs, validRune r) (fuel off : Nat)
    (hf : (encodeAll rs).length ≤ fuel) :
    runesAux fuel off (encodeAll rs) = offsets off rs := by
  induction rs generalizing fuel off with
  | nil => cases fuel <;> rfl
  | cons r rs ih =>
    have hne := encode_ne_nil r
    have hpos := List.length_pos_iff.2 hne
    rw [show encodeAll (r :: rs) = encode r ++ encodeAll rs from List.flatMap_cons] at hf ⊢
    rw [List.length_append] at hf
    cases fuel with
    | zero => omega
    | succ =>
      cases h : encode r ++ encodeAll rs with
      | nil => exact absurd (List.append_eq_nil_iff.1 h).1 hne
      | cons =>
        have hd := decode_encode r (encodeAll rs) (hv r (List.mem_cons_self ..))
        rw [h] at hd
        simp only [runesAux, hd, offsets]
        rw [← h, List.drop_left, ih (fun x hx => hv x (List.mem_cons_of_mem _ hx)) _ _ (by omega)]

/-- **range_roundtrip.** Ranging over the UTF-8 encoding of any sequence of Unicode scalar values
    yields exactly those values, each with the byte offset at which its encoding starts. -/
theorem range_roundtrip (rs : List Nat) (hv : ∀ r ∈ rs, validRune r) :
    runes (encodeAll rs) = offsets 0 rs :=
  runesAux_encodeAll rs hv _ 0 (Nat.le_refl _)

theorem runesAux_spec (fuel off : Nat) (s : Bytes) :
    (runesAux fuel off s).Pairwise (fun a b => a.1 < b.1) ∧
      ∀ p ∈ runesAux fuel off s, off ≤ p.1 ∧ p.1 < off + s.length ∧ validRune p.2 := by
  fun_induction runesAux fuel off s with
  | case1 | case2 => simp
  | case3 fuel off b t r w hd ih =>
    obtain ⟨hv, hw⟩ := decode_sound hd
    rw [List.length_drop] at ih
    refine ⟨List.pairwise_cons.2 ⟨fun p hp => ?_, ih.1⟩, fun p hp => ?_⟩
    · have := (ih.2 p hp).1; omega
    · rcases List.mem_cons.1 hp with rfl | hp
      · exact ⟨Nat.le_refl _, Nat.lt_add_of_pos_right (Nat.succ_pos _), hv⟩
      · have := ih.2 p hp; exact ⟨by omega, by omega, this.2.2⟩

/-- **range_offsets.** For *every* byte sequence (valid UTF-8 or not) the offsets reported by
    `range` strictly increase and stay inside the string. -/
theorem range_offsets (s : Bytes) :
    (runes s).Pairwise (fun a b => a.1 < b.1) ∧ ∀ p ∈ runes s, p.1 < s.length := by
  have h := runesAux_spec s.length 0 s
  rw [Nat.zero_add] at h
  exact ⟨h.1, fun p hp => (h.2 p hp).2.1⟩

/-- the fuel (`len s`) never runs out: the loop ends because the bytes are used up. Stated as: with
    any larger fuel the result is the same. -/
theorem runesAux_fuel (fuel fuel' off : Nat) (s : Bytes) (h1 : s.length ≤ fuel) (h2 : s.length ≤ fuel') :
    runesAux fuel off s = runesAux fuel' off s := by
  fun_induction runesAux fuel off s generalizing fuel' with
  | case1 off s => cases s <;> cases fuel' <;> first | rfl | cases h1
  | case2 => cases fuel' <;> rfl
  | case3 fuel off b t r w hd ih =>
    obtain ⟨_, hw⟩ := decode_sound hd
    cases fuel' with
    | zero => cases h2
    | succ fuel' =>
      simp only [runesAux, hd]
      rw [ih fuel' (by rw [List.length_drop]; omega) (by rw [List.length_drop]; omega)]

/-! ### byte-wise comparison is a strict total order -/

/-- `Str.lt` is the lexicographic order `<` of `List Nat`, whose order laws the library proves -/
theorem lt_iff (a b : Bytes) : lt a b = true ↔ a < b := by
  induction a generalizing b with
  | nil => cases b <;> simp [lt]
  | cons x xs ih =>
    cases b with
    | nil => simp [lt]
    | cons y =>
      rw [List.cons_lt_cons_iff, ← ih, lt]
      rcases Nat.lt_trichotomy x y with h | rfl | h <;> simp [*, Nat.ne_of_gt]

theorem lt_irrefl (a : Bytes) : lt a a = false :=
  Bool.eq_false_iff.2 fun h => List.lt_irrefl a ((lt_iff a a).1 h)

theorem lt_trichotomy (a b : Bytes) : lt a b = true ∨ a = b ∨ lt b a = true := by
  rw [lt_iff, lt_iff]
  exact Std.lt_trichotomy a b

theorem lt_asymm (a b : Bytes) (h : lt a b = true) : lt b a = false :=
  Bool.eq_false_iff.2 fun h' => List.lt_asymm ((lt_iff a b).1 h) ((lt_iff b a).1 h')

theorem lt_trans (a b c : Bytes) (h1 : lt a b = true) (h2 : lt b c = true) : lt a c = true :=
  (lt_iff a c).2 (List.lt_trans ((lt_iff a b).1 h1) ((lt_iff b c).1 h2))

/-- a proper prefix is smaller -/
theorem lt_prefix (a : Bytes) (b : Nat) (bs : Bytes) : lt a (a ++ b :: bs) = true :=
  (lt_iff _ _).2 (by simpa using List.append_left_lt (List.nil_lt_cons b bs))

/-- the first differing byte decides -/
theorem lt_first_diff (p : Bytes) (x y : Nat) (s t : Bytes) (h : x < y) :
    lt (p ++ x :: s) (p ++ y :: t) = true :=
  (lt_iff _ _).2 (List.append_left_lt (List.cons_lt_cons_iff.2 (.inl h)))

/-! ### indexing, slicing and concatenation count bytes -/

theorem slice_eq_some_iff {s t : Bytes} {i j : Nat} :
    slice s i j = some t ↔ (i ≤ j ∧ j ≤ s.length) ∧ (s.drop i).take (j - i) = t := by
  unfold slice; split <;> simp [*]

theorem slice_length (s t : Bytes) (i j : Nat) (h : slice s i j = some t) : t.length = j - i := by
  obtain ⟨h, rfl⟩ := slice_eq_some_iff.1 h
  rw [List.length_take, List.length_drop]; omega

theorem slice_index (s t : Bytes) (i j k : Nat) (h : slice s i j = some t) (hk : k < j - i) :
    index t k = index s (i + k) := by
  obtain ⟨_, rfl⟩ := slice_eq_some_iff.1 h
  simp [index, hk]

theorem slice_join (s : Bytes) (i j k : Nat) (hij : i ≤ j) (hjk : j ≤ k) (hk : k ≤ s.length) :
    (do let a ← slice s i j; let b ← slice s j k; pure (a ++ b)) = slice s i k := by
  rw [slice_eq_some_iff.2 ⟨⟨hij, Nat.le_trans hjk hk⟩, rfl⟩, slice_eq_some_iff.2 ⟨⟨hjk, hk⟩, rfl⟩,
    slice_eq_some_iff.2 ⟨⟨Nat.le_trans hij hjk, hk⟩, rfl⟩, show k - i = (j - i) + (k - j) by omega,
    List.take_add, List.drop_drop, Nat.add_sub_cancel' hij]
  rfl

theorem slice_out_of_range (s : Bytes) (i j : Nat) (h : j < i ∨ s.length < j) : slice s i j = none :=
  if_neg (by omega)

theorem index_out_of_range (s : Bytes) (i : Nat) (h : s.length ≤ i) : index s i = none :=
  List.getElem?_eq_none h

theorem concat_index (a b : Bytes) (i : Nat) :
    index (a ++ b) i = if i < a.length then index a i else index b (i - a.length) :=
  List.getElem?_append

theorem concat_slices (a b : Bytes) :
    slice (a ++ b) 0 a.length = some a ∧ slice (a ++ b) a.length (a ++ b).length = some b := by
  simp [slice_eq_some_iff]

def IsBytes (bs : Bytes) : Prop := ∀ b ∈ bs, b < 256

theorem hexVal_hexDigit : ∀ d < 16, hexVal (hexDigit d) = some d := by decide

theorem unescape_quoteByte {b : Nat} (hb : b < 256) (fuel : Nat) (rest : Bytes) :
    unescape 34 (fuel + 1) (quoteByte b ++ rest) = (unescape 34 fuel rest).map (b :: ·) := by
  have h1 := hexVal_hexDigit (b / 16) (by omega)
  have h2 := hexVal_hexDigit (b % 16) (by omega)
  simp [quoteByte, unescape, hexN, h1, h2, Nat.div_add_mod']

theorem unquote_quoteAll (bs : Bytes) (hb : IsBytes bs) (fuel : Nat) (hf : (quoteAll bs).length ≤ fuel) :
    unescape 34 (fuel + 1) (quoteAll bs) = some bs := by
  induction bs generalizing fuel with
  | nil => rfl
  | cons b t ih =>
    rw [show quoteAll (b :: t) = quoteByte b ++ quoteAll t from List.flatMap_cons] at hf ⊢
    rw [List.length_append, show (quoteByte b).length = 4 from rfl] at hf
    cases fuel with
    | zero => omega
    | succ f =>
      rw [unescape_quoteByte (hb b (List.mem_cons_self ..)),
        ih (fun x hx => hb x (List.mem_cons_of_mem _ hx)) f (by omega)]
      rfl

/-- **unquoteString_quoteAll.** Every byte sequence has a literal spelling (all bytes as `\xHH`) that the
    decoder maps back to exactly that byte sequence: no byte is unreachable or altered by literal
    decoding. -/
theorem unquoteString_quoteAll (bs : Bytes) (hb : IsBytes bs) : unquoteString (quoteAll bs) = some bs :=
  unquote_quoteAll bs hb _ (Nat.le_refl _)

/-- **toRunes_valid.** Whatever the bytes are, `[]rune(s)` holds Unicode scalar values only (invalid
    sequences give U+FFFD). -/
theorem toRunes_valid (s : Bytes) : ∀ r ∈ toRunes s, validRune r := by
  intro r hr
  obtain ⟨p, hp, rfl⟩ := List.mem_map.1 hr
  exact ((runesAux_spec _ _ _).2 p hp).2.2

theorem offsets_snd (off : Nat) (rs : List Nat) : (offsets off rs).map Prod.snd = rs := by
  induction rs generalizing off with
  | nil => rfl
  | cons r rs ih => simp [offsets, ih]

/-- **runes_of_string.** `[]rune(string(rs)) = rs` for every sequence of Unicode scalar values. -/
theorem runes_of_string (rs : List Nat) (hv : ∀ r ∈ rs, validRune r) : toRunes (encodeAll rs) = rs := by
  simp only [toRunes, range_roundtrip rs hv, offsets_snd]

/-- **rune_conversion_idempotent.** For EVERY byte string, converting to runes and back and to runes
    again changes nothing: `[]rune(string([]rune(s))) = []rune(s)`. -/
theorem rune_conversion_idempotent (s : Bytes) : toRunes (encodeAll (toRunes s)) = toRunes s :=
  runes_of_string _ (toRunes_valid s)

/-! ### non-vacuity -/

example : toRunes [0x68, 0xC3, 0xA9, 0xFF] = [0x68, 0xE9, 0xFFFD] := by decide


-- "héllo": h é(C3 A9) l l o
example : runes [0x68, 0xC3, 0xA9, 0x6C, 0x6C, 0x6F] = [(0, 0x68), (1, 0xE9), (3, 0x6C), (4, 0x6C), (5, 0x6F)] := by decide
-- invalid byte: a FF b → offsets 0 1 2, U+FFFD in the middle
example : runes [0x61, 0xFF, 0x62] = [(0, 0x61), (1, 0xFFFD), (2, 0x62)] := by decide
example : encode 0x1F410 = [0xF0, 0x9F, 0x90, 0x90] := by decide
example : validRune 0x1F410 ∧ validRune 0xE9 := by decide
example : unquoteString [92, 110, 104, 92, 120, 102, 102] = some [10, 104, 255] := by decide
example : lt [1, 2] [1, 2, 0] = true ∧ lt [1, 200] [2] = true := by decide

end Goat.Props.C13

#print axioms Goat.Props.C13.decode_encode
#print axioms Goat.Props.C13.range_roundtrip
#print axioms Goat.Props.C13.range_offsets
#print axioms Goat.Props.C13.runesAux_fuel
#print axioms Goat.Props.C13.lt_irrefl
#print axioms Goat.Props.C13.lt_trichotomy
#print axioms Goat.Props.C13.lt_asymm
#print axioms Goat.Props.C13.lt_trans
#print axioms Goat.Props.C13.lt_prefix
#print axioms Goat.Props.C13.lt_first_diff
#print axioms Goat.Props.C13.slice_length
#print axioms Goat.Props.C13.slice_index
#print axioms Goat.Props.C13.slice_join
#print axioms Goat.Props.C13.slice_out_of_range
#print axioms Goat.Props.C13.index_out_of_range
#print axioms Goat.Props.C13.concat_index
#print axioms Goat.Props.C13.concat_slices
#print axioms Goat.Props.C13.unquoteString_quoteAll
#print axioms Goat.Props.C13.toRunes_valid
#print axioms Goat.Props.C13.runes_of_string
#print axioms Goat.Props.C13.rune_conversion_idempotent
