import Goat.Model.MiniGo
import Goat.Props.C06
import Goat.Props.C05
/-!
# C01 — programs in the supported Go subset run exactly as the Go toolchain runs them
# (PARTIAL: an end-to-end theorem for the MiniGo fragment; the rest by composition and search)

End to end for MiniGo (integer locals, arithmetic expressions of any depth, assignment,
comparisons, `if`/`else`, `for` with and without condition, `break`, `continue`, any nesting):

* `expr_correct` — the instructions compiled from an expression, run by the stack machine, push
  exactly the value Go's left-to-right evaluation gives, and panic exactly when it panics;
* `assign_correct`, `cond_correct`, `bexpr_correct` — the code of `x = e` stores the value
  converted to the variable's type and leaves the operand stack as it was; the code of a condition —
  comparisons combined with `&&`, `||`, `!` to any depth — yields Go's short-circuit value (an
  operand Go does not evaluate is jumped over and cannot panic) for the following jump to consume;
* `source_to_value` — parser and compiler composed: the tokens of an expression's Go spelling are
  parsed (binding powers regenerated from symbol.go, C05) to a tree from which exactly the
  expression is recovered, and its code computes its Go value;
* `minigo_correct` — running the compiled program (C06's `body_correct` on these leaves) ends
  past its last instruction with the locals Go's big-step semantics gives; each step of that run
  over a leaf is realised by the instruction-level machine (`leaf_steps_are_real`).

The primitives (`+ - * / %` and the comparisons on every width, untyped-constant adoption,
assignment conversion) are C04's theorems; parsing to the tree is C05's; everything the fragment
leaves out (calls C09, maps C10, slices C11, structs C12, strings C13, printing C14, switch /
range / return, packages C15/C16) has its own property, and the composition is checked against
the Go toolchain on generated whole programs.
-/
namespace Goat.Props.C01
open Goat.MiniGo Goat.Peephole Goat.CF

variable {V : Type} (P : Prims V)

/-- (the right side names `σ'` so that `simp` can rewrite `run P b σ'` under the binder) -/
theorem run_append (a b : List Instr) (σ : St V) :
    run P (a ++ b) σ = (run P a σ).bind fun σ' => run P b σ' := by
  induction a generalizing σ with
  | nil => rfl
  | cons i is ih =>
    simp only [List.cons_append, run]
    cases step1 P i σ with
    | none => rfl
    | some σ' => exact ih σ'

theorem step1_push (k : Int) (σ : St V) :
    step1 P (ins "PUSH" k) σ = some { σ with ops := P.untyped k :: σ.ops } := by
  simp [step1, ins]

theorem step1_localget (i : Nat) (σ : St V) :
    step1 P (ins "LOCALGET" i) σ = σ.locals[i]?.map fun v => { σ with ops := v :: σ.ops } := by
  simp [step1, ins, Int.not_lt.mpr (Int.natCast_nonneg i)]

theorem step1_localset (n : Nat) (l : List V) (v : V) (ops : List V) :
    step1 P (ins "LOCALSET" n) ⟨l, v :: ops⟩ = l[n]?.map fun old => ⟨l.set n (P.assignTo v old), ops⟩ := by
  simp [step1, ins, Int.not_lt.mpr (Int.natCast_nonneg n)]

theorem binOfCode_code (op : BinOp) : binOfCode op.code = some op := by
  cases op <;> simp [binOfCode, BinOp.code]
theorem cmpOfCode_code (op : CmpOp) : cmpOfCode op.code = some op := by
  cases op <;> simp [cmpOfCode, CmpOp.code]

theorem step1_bin (op : BinOp) (l : List V) (x y : V) (ops : List V) :
    step1 P (ins op.code) ⟨l, y :: x :: ops⟩ = (P.bin op x y).map fun r => ⟨l, r :: ops⟩ := by
  have : op.code ≠ "PUSH" ∧ op.code ≠ "LOCALGET" ∧ op.code ≠ "LOCALSET" := by
    cases op <;> simp [BinOp.code]
  simp [step1, ins, this, binOfCode_code]

theorem expr_correct (e : Expr) (σ : St V) :
    run P (compileE e) σ = (evalE P σ.locals e).map fun v => { σ with ops := v :: σ.ops } := by
  induction e generalizing σ with
  | lit k => simp [compileE, run, step1_push, evalE]
  | loc i => simp [compileE, run, step1_localget, evalE]
  | bin op a b iha ihb =>
    simp [compileE, run_append, iha, ihb, evalE, Option.bind_map, Function.comp_def, run, step1_bin, Option.map_bind]

theorem assign_correct (s : Assign) (σ : St V) :
    run P (compileAssign s) σ = (evalAssign P σ.locals s).map fun l => { locals := l, ops := σ.ops } := by
  simp only [compileAssign, run_append, expr_correct, evalAssign]
  cases evalE P σ.locals s.rhs with
  | none => rfl
  | some v => cases h : σ.locals[s.slot]? <;> simp [run, step1_localset, h]

theorem cond_correct (c : Cond) (σ : St V) :
    runCond P (compileCond c) σ = (evalCond P σ.locals c).map fun b => (b, σ) := by
  simp only [runCond, compileCond, List.getLast?_concat, List.dropLast_concat, ins, cmpOfCode_code,
    run_append, expr_correct, evalCond]
  simp [Option.bind_assoc, Option.bind_map, Function.comp_def, Option.map_bind]

/-- an instruction the condition machine hands on to `step1` -/
def Value (i : Instr) : Prop := i.op ≠ "AND" ∧ i.op ≠ "OR" ∧ i.op ≠ "NOT" ∧ cmpOfCode i.op = none

theorem runJ_nil (σ : St V) : runJ P [] σ = some σ := by rw [runJ]

theorem runJ_value {i : Instr} (h : Value i) (rest : List Instr) (σ : St V) :
    runJ P (i :: rest) σ = (step1 P i σ).bind (runJ P rest) := by
  rw [runJ]; simp [h.1, h.2.1, h.2.2.1, h.2.2.2]

theorem runJ_and (n : Int) (rest : List Instr) (l : List V) (t : V) (ops : List V) :
    runJ P (ins "AND" n :: rest) ⟨l, t :: ops⟩ =
      if P.truth t then runJ P rest ⟨l, ops⟩ else runJ P (rest.drop n.toNat) ⟨l, t :: ops⟩ := by
  rw [runJ]; cases h : P.truth t <;> simp [ins, h]

theorem runJ_or (n : Int) (rest : List Instr) (l : List V) (t : V) (ops : List V) :
    runJ P (ins "OR" n :: rest) ⟨l, t :: ops⟩ =
      if P.truth t then runJ P (rest.drop n.toNat) ⟨l, t :: ops⟩ else runJ P rest ⟨l, ops⟩ := by
  rw [runJ]; cases h : P.truth t <;> simp [ins, h]

theorem runJ_not (rest : List Instr) (l : List V) (t : V) (ops : List V) :
    runJ P (ins "NOT" :: rest) ⟨l, t :: ops⟩ = runJ P rest ⟨l, P.ofBool (!P.truth t) :: ops⟩ := by
  rw [runJ]; simp [ins]

theorem runJ_cmp (op : CmpOp) (rest : List Instr) (l : List V) (x y : V) (ops : List V) :
    runJ P (ins op.code :: rest) ⟨l, y :: x :: ops⟩ =
      (P.cmp op x y).bind fun b => runJ P rest ⟨l, P.ofBool b :: ops⟩ := by
  have : op.code ≠ "AND" ∧ op.code ≠ "OR" ∧ op.code ≠ "NOT" := by cases op <;> simp [CmpOp.code]
  rw [runJ]; simp [ins, this, cmpOfCode_code]

theorem runJ_append_value {a : List Instr} (h : ∀ i ∈ a, Value i) (X : List Instr) (σ : St V) :
    runJ P (a ++ X) σ = (run P a σ).bind (runJ P X) := by
  induction a generalizing σ with
  | nil => rfl
  | cons i is ih =>
    rw [List.cons_append, runJ_value P (h i List.mem_cons_self), run]
    cases step1 P i σ with
    | none => rfl
    | some σ' => exact ih (fun j hj => h j (List.mem_cons_of_mem _ hj)) σ'

theorem compileE_value (e : Expr) : ∀ i ∈ compileE e, Value i := by
  induction e with
  | lit _ | loc _ => simp [compileE, ins, Value, cmpOfCode]
  | bin op a b iha ihb =>
    simp only [compileE, List.forall_mem_append, List.forall_mem_singleton]
    exact ⟨⟨iha, ihb⟩, by cases op <;> simp [Value, ins, BinOp.code, cmpOfCode]⟩

theorem runJ_compileE (e : Expr) (X : List Instr) (σ : St V) :
    runJ P (compileE e ++ X) σ = (evalE P σ.locals e).bind fun v => runJ P X { σ with ops := v :: σ.ops } := by
  rw [runJ_append_value P (compileE_value e), expr_correct, Option.bind_map]; rfl

/-- **bexpr_correct.** The code of a boolean condition — comparisons combined with `&&`, `||` and
    `!` to any depth — leaves exactly Go's short-circuit value on the stack and then continues with
    whatever follows; an operand that Go does not evaluate is jumped over (and cannot panic). -/
theorem bexpr_correct (hP : ∀ b, P.truth (P.ofBool b) = b) (b : BExpr) (X : List Instr) (σ : St V) :
    runJ P (compileB b ++ X) σ =
      (evalB P σ.locals b).bind fun v => runJ P X { σ with ops := P.ofBool v :: σ.ops } := by
  induction b generalizing X σ with
  | cmp c => simp [compileB, compileCond, runJ_compileE, runJ_cmp, evalB, evalCond, Option.bind_assoc]
  | and a b iha ihb | or a b iha ihb =>
    simp only [compileB, List.append_assoc, List.cons_append, List.nil_append, evalB, iha]
    cases evalB P σ.locals a with
    | none => rfl
    | some va =>
      -- the operand that decides the result makes the jump skip exactly `compileB b`
      cases va <;> simp [runJ_and, runJ_or, hP, ihb]
  | not a iha =>
    simp [compileB, evalB, iha, runJ_not, hP, Option.bind_map, Function.comp_def]

theorem compileE_noPH (e : Expr) : ∀ i ∈ compileE e, isPH i = false := by
  induction e with
  | lit _ | loc _ => simp [compileE, ins, isPH]
  | bin op a b iha ihb =>
    simp only [compileE, List.forall_mem_append, List.forall_mem_singleton]
    exact ⟨⟨iha, ihb⟩, by cases op <;> simp [isPH, ins, BinOp.code]⟩

theorem compileE_ne (e : Expr) : compileE e ≠ [] := by
  cases e <;> simp [compileE]

theorem compileB_noPH (b : BExpr) : ∀ i ∈ compileB b, isPH i = false := by
  induction b with
    simp only [compileB, compileCond, List.forall_mem_append, List.forall_mem_singleton]
  | cmp c => exact ⟨⟨compileE_noPH _, compileE_noPH _⟩, by cases c.op <;> simp [isPH, ins, CmpOp.code]⟩
  | and a b iha ihb | or a b iha ihb => exact ⟨⟨iha, by simp [isPH, ins]⟩, ihb⟩
  | not a iha => exact ⟨iha, by simp [isPH, ins]⟩

theorem compileB_ne (b : BExpr) : compileB b ≠ [] := by
  cases b <;> simp [compileB, compileCond]

theorem leavesOK (p : Prog) : LeavesOK (sem P p) (leaves p) where
  act_noPH n := by
    simp only [leaves]
    split
    · simp only [compileAssign, List.forall_mem_append, List.forall_mem_singleton]
      exact ⟨compileE_noPH _, by simp [isPH, ins]⟩
    · simp
  cnd_noPH c := by
    simp only [leaves]
    split
    · exact compileB_noPH _
    · simp [isPH, ins]
  cnd_ne c := by
    simp only [leaves]
    split
    · exact compileB_ne _
    · simp
  act_empty n h s := by
    simp only [leaves, sem] at h ⊢
    split at h
    · simp [compileAssign] at h
    · rfl

/-- **minigo_correct.** If Go's semantics runs the program's body from locals `l` to completion
    with final state `st'` (the final locals, or `none` for a panic), then the compiled code, started
    at its first instruction, reaches the position just past its last instruction with exactly that
    state and an empty condition stack. -/
theorem minigo_correct (p : Prog) (l : List V) (st' : Option (List V))
    (hwf : ∀ i ∈ compileProg p, isPH i = false)        -- every break / continue sits inside a loop
    (h : Exec (sem P p) p.body (some l) .normal st') :
    Star (sem P p) (leaves p) (compileProg p) (0, [], some l) ((compileProg p).length, [], st') := by
  have := Goat.Props.C06.body_correct (leavesOK P p) h (.inl rfl) []
  rwa [rw_noPH 0 0 (compile (leaves p) p.body) hwf] at this

theorem runCondJ_compileB (hP : ∀ b, P.truth (P.ofBool b) = b) (b : BExpr) (σ : St V) :
    runCondJ P (compileB b) σ = (evalB P σ.locals b).map fun v => (v, σ) := by
  have := bexpr_correct P hP b [] σ
  rw [List.append_nil] at this
  rw [runCondJ, this]
  cases evalB P σ.locals b <;> simp [runJ_nil, hP]

/-- **leaf_steps_are_real.** Each macro step of the control-flow machine over a leaf is what the
    instruction-level machine does on that leaf's code: an assignment's code turns the locals into
    `(sem P p).act n`, a condition's code yields `(sem P p).cval c` and leaves everything else
    alone; a panic in either is the absorbing state `none`. -/
theorem leaf_steps_are_real (hP : ∀ b, P.truth (P.ofBool b) = b) (p : Prog) (l ops : List V) :
    (∀ n a, p.acts[n]? = some a →
      (run P ((leaves p).act n) { locals := l, ops := ops }).map (·.locals) = (sem P p).act n (some l) ∧
      ∀ σ', run P ((leaves p).act n) { locals := l, ops := ops } = some σ' → σ'.ops = ops) ∧
    (∀ c k, p.cnds[c]? = some k →
      runCondJ P ((leaves p).cnd c) { locals := l, ops := ops } =
        if (sem P p).ceff c (some l) = none then none
        else some ((sem P p).cval c (some l), { locals := l, ops := ops })) := by
  constructor
  · intro n a ha
    simp only [leaves, sem, ha, assign_correct, Option.bind_some]
    cases evalAssign P l a <;> simp
  · intro c k hk
    simp only [leaves, sem, hk, runCondJ_compileB P hP]
    cases evalB P l k <;> simp

/-! ### non-vacuity: a program with a short-circuit condition, on unbounded integers -/

def intPrims : Prims Int where
  untyped k := k
  bin op a b := match op with
    | .add => some (a + b) | .sub => some (a - b) | .mul => some (a * b)
    | .div => if b = 0 then none else some (a / b)
    | .mod => if b = 0 then none else some (a % b)
  cmp op a b := match op with
    | .lt => some (decide (a < b)) | .lte => some (decide (a ≤ b)) | .gt => some (decide (a > b))
    | .gte => some (decide (a ≥ b)) | .eq => some (decide (a = b)) | .neq => some (decide (a ≠ b))
  assignTo v _ := v
  ofBool b := if b then 1 else 0
  truth v := v ≠ 0

def demo : Prog :=
  { acts := [⟨0, .bin .add (.loc 0) (.lit 1)⟩, ⟨0, .lit 0⟩],
    cnds := [.and (.not (.cmp ⟨.eq, .loc 0, .lit 0⟩)) (.cmp ⟨.gt, .bin .div (.lit 6) (.loc 0), .lit 1⟩)],
    body := .seq (.act 0) (.ift 0 (.act 1)) }

-- x = x + 1; if !(x == 0) && 6/x > 1 { x = 0 }
example : (compileProg demo).map (fun i => (i.op, i.a)) =
    [("LOCALGET", 0), ("PUSH", 1), ("ADD", 0), ("LOCALSET", 0),
     ("LOCALGET", 0), ("PUSH", 0), ("EQ", 0), ("NOT", 0), ("AND", 5),
     ("PUSH", 6), ("LOCALGET", 0), ("DIV", 0), ("PUSH", 1), ("GT", 0),
     ("JUMPFALSE", 2), ("PUSH", 0), ("LOCALSET", 0)] := by decide +kernel

example : ∀ i ∈ compileProg demo, isPH i = false := by decide +kernel

/-- Go's semantics: from x = 2 the program ends with x = 0 (6/3 > 1); from x = -1 the division by
    zero is never evaluated: `!(x == 0)` is false and `&&` short-circuits -/
example : Exec (sem intPrims demo) demo.body (some [2]) .normal (some [0]) := by
  have h1 : Exec (sem intPrims demo) (.act 0) (some [2]) .normal (some [3]) := Exec.act
  have h2 : Exec (sem intPrims demo) (.act 1) (some [3]) .normal (some [0]) := Exec.act
  exact Exec.seqN h1 (Exec.iftT (by decide) h2)

example : evalB intPrims [0] (.and (.not (.cmp ⟨.eq, .loc 0, .lit 0⟩)) (.cmp ⟨.gt, .bin .div (.lit 6) (.loc 0), .lit 1⟩)) = some false := by
  decide

example : runCondJ intPrims (compileB (.and (.not (.cmp ⟨.eq, .loc 0, .lit 0⟩)) (.cmp ⟨.gt, .bin .div (.lit 6) (.loc 0), .lit 1⟩)))
    { locals := [0], ops := [] } = some (false, { locals := [0], ops := [] }) := by
  exact (runCondJ_compileB intPrims (by intro b; cases b <;> decide) _ _).trans rfl

end Goat.Props.C01

#print axioms Goat.Props.C01.expr_correct
#print axioms Goat.Props.C01.assign_correct
#print axioms Goat.Props.C01.cond_correct
#print axioms Goat.Props.C01.leavesOK
#print axioms Goat.Props.C01.minigo_correct
#print axioms Goat.Props.C01.bexpr_correct
#print axioms Goat.Props.C01.leaf_steps_are_real

namespace Goat.Props.C01
open Goat.MiniGo Goat.Pratt

def opSym : BinOp → String
  | .add => "+" | .sub => "-" | .mul => "*" | .div => "/" | .mod => "%"

def symOp (s : String) : Option BinOp :=
  if s = "+" then some .add else if s = "-" then some .sub else if s = "*" then some .mul
  else if s = "/" then some .div else if s = "%" then some .mod else none

/-- the source tree of a MiniGo expression; local `i` is written with its name `names[i]` -/
def toTree (names : List String) : MiniGo.Expr → Pratt.Expr
  | .lit k => .int false k.toNat
  | .loc i => .name (names.getD i "?")
  | .bin op a b => .bin (opSym op) (toTree names a) (toTree names b)

/-- what the compiler reads off a parse tree (a name is the local declared with that name) -/
def ofTree (names : List String) : Pratt.Expr → Option MiniGo.Expr
  | .int false n => some (.lit n)
  | .name s => (names.idxOf? s).map .loc
  | .bin s l r => do
    let op ← symOp s
    let a ← ofTree names l
    let b ← ofTree names r
    pure (.bin op a b)
  | _ => none

/-- literals are non-negative (a negative literal is the unary minus of one), locals are declared -/
def Plain (names : List String) : MiniGo.Expr → Prop
  | .lit k => 0 ≤ k
  | .loc i => i < names.length
  | .bin _ a b => Plain names a ∧ Plain names b

theorem symOp_opSym (op : BinOp) : symOp (opSym op) = some op := by cases op <;> simp [symOp, opSym]

theorem toTree_wf (names : List String) (e : MiniGo.Expr) : WF GoSpec.goTable (toTree names e) := by
  induction e with
  | lit _ | loc _ => simp [toTree, WF]
  | bin op a b iha ihb =>
    refine ⟨?_, iha, ihb⟩
    cases op <;> decide

theorem toTree_fold (names : List String) (e : MiniGo.Expr) : fold (toTree names e) = toTree names e := by
  induction e with
  | lit _ | loc _ => rfl
  | bin op a b iha ihb => simp [toTree, fold, iha, ihb]

theorem ofTree_toTree (names : List String) (hn : names.Nodup) (e : MiniGo.Expr) (hp : Plain names e) :
    ofTree names (toTree names e) = some e := by
  induction e with
  | lit k =>
    simp [toTree, ofTree, Int.toNat_of_nonneg hp]
  | loc i =>
    have hi : i < names.length := hp
    -- no earlier name equals `names[i]`: the names are distinct
    have : names.idxOf? names[i] = some i :=
      List.idxOf?_eq_some_iff.mpr ⟨hi, rfl, fun j hj e => Nat.ne_of_lt hj ((List.getElem_inj hn).mp e)⟩
    simp [toTree, ofTree, hi, this]
  | bin op a b iha ihb =>
    simp [toTree, ofTree, symOp_opSym, iha hp.1, ihb hp.2]

/-- **source_to_value.** For every MiniGo expression: the tokens of its Go spelling (minimal
    parentheses by Go's precedence) are parsed, with the binding powers found in symbol.go, to a
    tree from which the compiler recovers exactly the expression; and the code compiled from it
    pushes exactly the value of Go's left-to-right evaluation (or panics exactly when it does). -/
theorem source_to_value {V : Type} (P : Prims V) (names : List String) (hn : names.Nodup)
    (e : MiniGo.Expr) (hp : Plain names e) (σ : St V) :
    ∃ f, ∀ f', f ≤ f' →
      (parseExpr genTable f' 0 (render GoSpec.goTable 1 (toTree names e))).bind
        (fun r => if r.2 = [] then ofTree names r.1 else none) = some e ∧
      run P (compileE e) σ = (evalE P σ.locals e).map fun v => { σ with ops := v :: σ.ops } := by
  obtain ⟨f, hf⟩ := Goat.Props.C05.groups_as_go (toTree names e) (toTree_wf names e)
  refine ⟨f, fun f' hle => ⟨?_, expr_correct P e σ⟩⟩
  rw [hf f' hle, toTree_fold]
  simp [ofTree_toTree names hn e hp]

end Goat.Props.C01

#print axioms Goat.Props.C01.source_to_value
