import Goat.Lemmas.Pratt
import Goat.Model.PrattGen
import Goat.Spec.GoPrec
/-!
# C05 — expressions group by Go's operator precedence and associativity

The binding-power table `genTable` is regenerated from
/repo/symbol.go and /repo/compiler.go on every run (Goat/Gen/Tables.lean), so every
`decide` below is re-checked against what the source says now.
-/
namespace Goat.Props.C05
open Goat.Pratt GoSpec

/-- all that is asked of the regenerated table, in one evaluation: walking `Gen.symbols` and
    `Gen.infixMap` is the dear part of each of these facts, and inside one evaluation the kernel
    does it once. The last conjunct says that at the top level neither table parenthesises. -/
theorem table_facts :
    ((genTable.bin.map (·.1)).all (fun s => (goTable.lbp? s).isSome) = true ∧
     (goTable.bin.map (·.1)).all (fun s => (genTable.lbp? s).isSome) = true ∧
     genTable.bin.length = goTable.bin.length ∧
     genTable.pre.map (·.1) = ["-", "^", "!"]) ∧
    genTable.okB = true ∧
    isoB goTable genTable = true ∧
    goTable.bin.all (fun a => goTable.bin.all (fun b =>
      decide ((a.2 < b.2 ↔ genTable.lbp a.1 < genTable.lbp b.1) ∧
              (a.2 = b.2 ↔ genTable.lbp a.1 = genTable.lbp b.1)))) = true ∧
    relB goTable genTable 1 1 = true := by decide +kernel

/-- the parser's binary operators are exactly Go's (minus `&^`, which is not a token), and its
    prefix operators are `- ^ !` -/
theorem table_ops :
    (genTable.bin.map (·.1)).all (fun s => (goTable.lbp? s).isSome) = true ∧
    (goTable.bin.map (·.1)).all (fun s => (genTable.lbp? s).isSome) = true ∧
    genTable.bin.length = goTable.bin.length ∧
    genTable.pre.map (·.1) = ["-", "^", "!"] := table_facts.1

/-- parentheses bind looser than every binary operator; every prefix operator parses its
    operand tighter than any binary operator -/
theorem table_ok : genTable.okB = true := table_facts.2.1

/-- the parser's binding powers order the operators exactly as Go's five levels do -/
theorem table_iso : isoB goTable genTable = true := table_facts.2.2.1

/-- stated outright: two binary operators compare by binding power as they do by Go level -/
theorem table_order :
    goTable.bin.all (fun a => goTable.bin.all (fun b =>
      decide ((a.2 < b.2 ↔ genTable.lbp a.1 < genTable.lbp b.1) ∧
              (a.2 = b.2 ↔ genTable.lbp a.1 = genTable.lbp b.1)))) = true := table_facts.2.2.2.1

/-- C05 inside any context: the text of `e` (as in `groups_as_go` below) is read back as `fold e`,
    and what follows it and cannot continue it (a closing bracket, `{`, `;`, a keyword, end of
    input) is left in place -/
theorem groups_as_go_ctx (e : Expr) (hw : WF goTable e) (X : List Tok) (hX : headLbp genTable X = 0) :
    ∃ f, ∀ f', f ≤ f' → parseExpr genTable f' 0 (render goTable 1 e ++ X) = some (fold e, X) := by
  have ⟨hw', hr⟩ := render_iso table_iso e hw
  rw [hr 1 1 table_facts.2.2.2.2]
  exact pratt_inverts_render genTable (Table.okB_sound _ table_ok) e hw' 0 X (by omega)

/-- **C05.** For every source expression `e` over Go's binary and unary operators (any size, any
    nesting, with any redundant parentheses), printed with the parentheses Go's grammar
    (`goTable`: five levels, left-associative, unary tightest) requires, goatlang's parser with
    the table found in the source returns exactly `e`'s tree (`fold` drops the redundant
    parentheses and folds `-<literal>`, as `negateNud` does) and consumes the whole text. -/
theorem groups_as_go (e : Expr) (hw : WF goTable e) :
    ∃ f, ∀ f', f ≤ f' → parseExpr genTable f' 0 (render goTable 1 e) = some (fold e, []) := by
  simpa using groups_as_go_ctx e hw [] rfl

/-- `&^` is lexed as `&` followed by unary `^`; on every fixed-width integer that is Go's AND NOT -/
theorem andnot_equiv {w : Nat} (a b : BitVec w) : a &&& (b ^^^ BitVec.allOnes w) = a &&& ~~~b := by
  rw [BitVec.xor_allOnes]

/-! ### non-vacuity: concrete expressions that mix shifts, bit operators and arithmetic -/

/-- `1<<3 - 1`, `6 | 1 + 1` and a ten-operator expression with prefix operators and a parenthesis:
    the executable parser (with its default fuel) returns the Go tree -/
def ex1 : Expr := .bin "-" (.bin "<<" (.int false 1) (.int false 3)) (.int false 1)
def ex2 : Expr := .bin "|" (.int false 6) (.bin "+" (.int false 1) (.int false 1))
def ex3 : Expr := .bin "||" (.bin "==" (.un "!" (.name "a")) (.name "b"))
  (.bin "<" (.bin "*" (.un "-" (.paren (.int false 2))) (.bin "+" (.name "x") (.name "y"))) (.bin "&" (.name "p") (.un "^" (.name "q"))))

example : parseTop genTable (render goTable 1 ex1) = some (fold ex1, []) := by decide +kernel
example : parseTop genTable (render goTable 1 ex2) = some (fold ex2, []) := by decide +kernel
example : parseTop genTable (render goTable 1 ex3) = some (fold ex3, []) := by decide +kernel
example : WF goTable ex3 := by simp only [WF, ex3]; decide +kernel

end Goat.Props.C05

#print axioms Goat.Props.C05.table_ops
#print axioms Goat.Props.C05.table_ok
#print axioms Goat.Props.C05.table_iso
#print axioms Goat.Props.C05.table_order
#print axioms Goat.Props.C05.groups_as_go
#print axioms Goat.Props.C05.groups_as_go_ctx
#print axioms Goat.Props.C05.andnot_equiv
