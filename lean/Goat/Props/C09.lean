import Goat.Model.Call
import Goat.Lemmas.Protocol
/-!
# C09 — calls deliver arguments and results in order and with their declared types

The index arithmetic of `mkFunc`, `callReady`, `call` and `newMethod` (kept literally in the
model) is shown equal to the specification: for **every** caller stack prefix `S` — whatever else
is on the stack, at any recursion depth — a call replaces exactly its arguments by exactly the
requested results, converted to the declared types, in order, and `S` is untouched; surplus
arguments of a variadic function arrive packed in one slice in the last parameter; a method's
receiver arrives as parameter 0 under the arguments; a wrong argument count or a request for more
results than the callee yields is an error, never a silently misaligned stack.

Hypothesis `FrameLocal`: the body only works inside its own frame and returns exactly its declared
number of results. For compiled code this is what C07's verifier checks on every path (slots in
range, no underflow, `RETURN n` with exactly n values).
-/
namespace Goat.Props.C09
open Goat.Call Goat.Protocol

variable {V : Type}

/-- the body respects its frame: run on `S ++ F` (frame `F` of `slots` values) it leaves `S`,
    `slots` final locals and exactly `rets` results -/
structure FrameLocal (fn : Fn V) where
  body : List V → Option (List V × List V)
  law : ∀ (S F : List V), F.length = fn.slots →
    fn.run S.length (S ++ F) = (body F).map fun lr => S ++ lr.1 ++ lr.2
  locals_len : ∀ F l r, F.length = fn.slots → body F = some (l, r) → l.length = fn.slots
  rets_len : ∀ F l r, body F = some (l, r) → r.length = fn.rets
  slots_ge : fn.args ≤ fn.slots

theorem convRange_append (f : Nat → V → V) (S : List V) {A : List V} {n : Nat} (hA : A.length = n) :
    convRange f S.length n (S ++ A) = S ++ A.mapIdx f := by
  subst hA
  rw [convRange, List.mapIdx_append]
  congr 1
  · refine List.mapIdx_eq_iff.mpr fun i => ?_
    cases h : S[i]? with
    | none => rfl
    | some => simp [Nat.not_le.mpr (List.getElem?_eq_some_iff.mp h).1]
  · exact List.mapIdx_eq_mapIdx_iff.mpr fun i h => by simp [h, Nat.add_comm i]

/-- the frame a call builds: typed arguments followed by empty slots -/
def frameOf (nil : V) (fn : Fn V) (A : List V) : List V :=
  A.mapIdx fn.argConv ++ List.replicate (fn.slots - fn.args) nil

/-- **mkFunc on any caller stack** -/
theorem mkFunc_spec (nil : V) (fn : Fn V) (fl : FrameLocal fn) (S A : List V) (hA : A.length = fn.args) :
    mkFunc nil fn (S ++ A) =
      match fl.body (frameOf nil fn A) with
      | none => none
      | some (_, r) => some (S ++ r.mapIdx fn.retConv) := by
  have hflen : (frameOf nil fn A).length = fn.slots := by
    simp [frameOf, hA, Nat.add_sub_of_le fl.slots_ge]
  unfold mkFunc
  simp only [length_append_sub hA, convRange_append _ S hA, List.append_assoc]
  rw [← frameOf, fl.law S _ hflen]
  cases hb : fl.body (frameOf nil fn A) with
  | none => rfl
  | some lr =>
    obtain ⟨l, r⟩ := lr
    have hr := fl.rets_len _ l r hb
    have htop : (S ++ frameOf nil fn A).length = (S ++ l).length := by
      simp [hflen, fl.locals_len _ l r hflen hb]
    simp only [Option.map_some, List.append_assoc, List.take_left]
    rw [htop, ← List.append_assoc, List.drop_left, if_neg (by simp [hr]), length_append_sub hr,
      convRange_append _ S hr]

/-! `callReady` and `call` are the generic wrappers around `mkFunc nil fn` -/

theorem callReady_eq_ready (nil : V) (fn : Fn V) :
    callReady nil fn = ready (mkFunc nil fn) fn.args := rfl

theorem call_eq_packed (nil : V) (mkSlice : List V → V) (fn : Fn V) (xArgs xRets : Nat) :
    call nil mkSlice fn xArgs xRets =
      packed fn.variadic mkSlice fn.args (callReady nil fn · xRets) xArgs := rfl

/-- **call_frame.** `callReady` with the right argument count: the caller's prefix `S` is
    untouched, the arguments are replaced by the first `xRets` typed results; asking for more
    results than the function declares is an error. -/
theorem call_frame (nil : V) (fn : Fn V) (fl : FrameLocal fn) (S A : List V) (hA : A.length = fn.args)
    (xRets : Nat) :
    callReady nil fn fn.args xRets (S ++ A) =
      match fl.body (frameOf nil fn A) with
      | none => none
      | some (_, r) => if fn.rets < xRets then none else some (S ++ (r.mapIdx fn.retConv).take xRets) := by
  have h := mkFunc_spec nil fn fl S A hA
  rw [callReady_eq_ready]
  cases hb : fl.body (frameOf nil fn A) <;> rw [hb] at h
  · exact ready_none hA xRets h
  · rw [ready_some hA xRets h, List.length_mapIdx, fl.rets_len _ _ _ hb]

/-- a call with the wrong number of arguments is an error and changes nothing -/
theorem wrong_arg_count (nil : V) (fn : Fn V) (xArgs xRets : Nat) (stack : List V) (h : xArgs ≠ fn.args) :
    callReady nil fn xArgs xRets stack = none :=
  if_pos h

/-- **variadic_pack.** Calling a variadic function with `fixed ++ extra` arguments (`fixed` the
    `args − 1` ordinary ones, `extra` any number, also none) is the plain call with `extra` packed
    into one slice as the last argument; `S` is untouched. -/
theorem variadic_pack (nil : V) (mkSlice : List V → V) (fn : Fn V) (hv : fn.variadic = true)
    (S fixed extra : List V) (hf : fixed.length + 1 = fn.args) (xRets : Nat) :
    call nil mkSlice fn (fixed.length + extra.length) xRets (S ++ fixed ++ extra) =
      callReady nil fn fn.args xRets (S ++ (fixed ++ [mkSlice extra])) := by
  rw [call_eq_packed, hv]
  exact packed_spec mkSlice (callReady nil fn · xRets) S fixed extra hf

/-- **method_receiver.** A bound method called with its `args − 1` arguments runs the function
    with the receiver as parameter 0 followed by the arguments, in order. -/
theorem method_receiver (nil : V) (recv : V) (fn : Fn V) (S A : List V) (hA : A.length + 1 = fn.args) :
    methodCall nil recv fn (S ++ A) = mkFunc nil fn (S ++ ([recv] ++ A)) := by
  simp only [methodCall, length_append_sub (Nat.eq_sub_of_add_eq hA), List.take_left, List.drop_left,
    List.append_assoc]

/-! ### non-vacuity: a two-result swap function on a non-empty caller stack -/

def swapFn : Fn Nat :=
  { args := 2, rets := 2, variadic := false, slots := 3, argConv := fun _ v => v, retConv := fun _ v => v,
    run := fun base s => some (s ++ [s.getD (base + 1) 0, s.getD base 0]) }

example : callReady 0 swapFn 2 2 [7, 8, 1, 2] = some [7, 8, 2, 1] := by decide
example : callReady 0 swapFn 2 1 [7, 8, 1, 2] = some [7, 8, 2] := by decide
example : callReady 0 swapFn 2 3 [7, 8, 1, 2] = none := by decide
example : callReady 0 swapFn 1 1 [7, 8, 1, 2] = none := by decide

end Goat.Props.C09

#print axioms Goat.Props.C09.mkFunc_spec
#print axioms Goat.Props.C09.call_frame
#print axioms Goat.Props.C09.wrong_arg_count
#print axioms Goat.Props.C09.variadic_pack
#print axioms Goat.Props.C09.method_receiver
