import Goat.Model.Check
/-!
# C07 — statements are stack-neutral and call frames are isolated on every path

`Goat.Check.check` is run on the instruction list the **real** compiler emitted (cut point
`compile`); if it accepts a function body then, by `verify_sound`, on *every* path through that
body — including paths the program's inputs never take —

* the operand stack never underflows (each instruction finds the operands it pops),
* every branch lands on an instruction of the same function (or exactly at its end), never
  inside a nested function's header or body,
* two paths never reach the same instruction with different operand depths (so a loop cannot
  accumulate operands and an early exit cannot leave any behind),
* every slot index an instruction reads or writes lies inside the function's own frame,
* calls consume exactly their arguments and leave exactly the requested results (that is what
  `effect` says about CALL/FASTCALL/…; `callReady` enforces it at run time).

In strict mode `check` additionally requires an empty operand stack wherever a jump lands
(statement boundaries), exactly the `n` results at every `RETURN n`, and an empty stack at the end
of the body; `Safe` does not record these, so no theorem here draws a consequence from them.

The abstract machine below tracks only (pc, operand depth); that `effect` describes do.go
correctly is the correspondence cut point `effect` (single instructions executed on the real VM).
-/
namespace Goat.Props.C07
open Goat.Check

/-- one abstract step: the successors of a configuration (pc, depth). No successor when the
    instruction is terminal, unknown — or when it would underflow. -/
def astep (c : Code) (s : Nat × Nat) : List (Nat × Nat) :=
  match effectAt c s.1 with
  | none => []
  | some e =>
    if e.pops ≤ s.2 then
      e.succs.filterMap (fun (off, pushes) =>
        let t : Int := (s.1 : Int) + 1 + off
        if 0 ≤ t then some (t.toNat, s.2 - e.pops + pushes) else none)
    else []

/-- configurations reachable from the function entry with an empty operand stack -/
inductive Reach (c : Code) : Nat × Nat → Prop where
  | start : Reach c (0, 0)
  | step {s s'} : Reach c s → s' ∈ astep c s → Reach c s'

/-- what is guaranteed at a reachable configuration -/
structure Safe (c : Code) (slots : Nat) (m : List Nat) (sk : List Bool) (s : Nat × Nat) : Prop where
  in_code : s.1 ≤ c.length
  at_instr : s.1 < c.length →
    m[s.1]? = some s.2 ∧ sk[s.1]? = some false ∧
    ∃ e, effectAt c s.1 = some e ∧ e.pops ≤ s.2 ∧
      (∀ x ∈ e.slots, 0 ≤ x ∧ x.toNat < slots) ∧
      (∀ p ∈ e.succs, 0 ≤ (s.1 : Int) + 1 + p.1 ∧ ((s.1 : Int) + 1 + p.1).toNat ≤ c.length)

/-- the invariant of the soundness induction: a position inside the code is recorded in the depth
    map with the current depth and is not nested-function material -/
def Entry (c : Code) (m : List Nat) (sk : List Bool) (s : Nat × Nat) : Prop :=
  s.1 ≤ c.length ∧ (s.1 < c.length → m[s.1]? = some s.2 ∧ sk[s.1]? = some false)

section
variable {c : Code} {slots : Nat} {m : List Nat} {sk : List Bool} {strict : Bool}

theorem effectAt_lt {pc : Nat} {e : Effect} (h : effectAt c pc = some e) : pc < c.length := by
  unfold effectAt at h
  cases hg : c[pc]? with
  | none => rw [hg] at h; cases h
  | some => exact (List.getElem?_eq_some_iff.mp hg).1

theorem mem_astep {s s' : Nat × Nat} (h : s' ∈ astep c s) :
    ∃ e, effectAt c s.1 = some e ∧ e.pops ≤ s.2 ∧ ∃ p ∈ e.succs,
      0 ≤ (s.1 : Int) + 1 + p.1 ∧ (((s.1 : Int) + 1 + p.1).toNat, s.2 - e.pops + p.2) = s' := by
  unfold astep at h
  cases he : effectAt c s.1 with
  | none => rw [he] at h; cases h
  | some e =>
    simp only [he, List.mem_ite_nil_right, List.mem_filterMap, Option.ite_none_right_eq_some,
      Option.some.injEq] at h
    exact ⟨e, rfl, h⟩

/-- the one place where the checker is opened: on accepted code, if the invariant holds at `s`
    then the instruction at `s` is safe and the invariant holds at the far end of every edge -/
theorem check_spec (h : check c slots m sk strict = true) {s : Nat × Nat} (hs : Entry c m sk s)
    (hpc : s.1 < c.length) :
    ∃ e, effectAt c s.1 = some e ∧ e.pops ≤ s.2 ∧ (∀ x ∈ e.slots, 0 ≤ x ∧ x.toNat < slots) ∧
      ∀ p ∈ e.succs, 0 ≤ (s.1 : Int) + 1 + p.1 ∧
        Entry c m sk (((s.1 : Int) + 1 + p.1).toNat, s.2 - e.pops + p.2) := by
  obtain ⟨hm, hsk⟩ := hs.2 hpc
  simp only [check, Bool.and_eq_true, List.all_eq_true, List.mem_range] at h
  have h := h.2 s.1 hpc
  rw [hsk, Option.getD_some, Bool.false_or, checkAt] at h
  cases he : effectAt c s.1 with
  | none => rw [he] at h; cases h
  | some e =>
    simp only [he, hm, Bool.and_eq_true, decide_eq_true_eq, List.all_eq_true] at h
    refine ⟨e, rfl, h.1.1.1, h.1.1.2, fun p hp => ?_⟩
    have ht := (h.2 p hp).1
    refine ⟨ht.1.1, ht.1.2, fun hlt => ?_⟩
    have := ht.2
    rwa [if_pos hlt, Bool.and_eq_true, beq_iff_eq, beq_iff_eq] at this

theorem entry_of_reach (h : check c slots m sk strict = true) {s : Nat × Nat} (hr : Reach c s) :
    Entry c m sk s := by
  induction hr with
  | start =>
    refine ⟨Nat.zero_le _, fun hc => ?_⟩
    simp only [check, Bool.and_eq_true, Bool.or_eq_true, beq_iff_eq] at h
    exact h.1.resolve_left (Nat.ne_of_gt hc)
  | step _ hs ih =>
    obtain ⟨e, he, _, p, hp, _, rfl⟩ := mem_astep hs
    obtain ⟨e', he', _, _, ht⟩ := check_spec h ih (effectAt_lt he)
    cases he.symm.trans he'
    exact (ht p hp).2

end

/-- **verify_sound.** If the checker accepts, every configuration reachable on any path is safe:
    inside the code, at the depth the map records, not inside a nested function, with enough
    operands for the instruction, all its slots inside the frame and all its branch targets
    inside the function. -/
theorem verify_sound {c : Code} {slots : Nat} {m : List Nat} {sk : List Bool} {strict : Bool}
    (h : check c slots m sk strict = true) {s : Nat × Nat} (hr : Reach c s) : Safe c slots m sk s := by
  have hs := entry_of_reach h hr
  refine ⟨hs.1, fun hpc => ?_⟩
  obtain ⟨e, he, hp, hsl, ht⟩ := check_spec h hs hpc
  exact ⟨(hs.2 hpc).1, (hs.2 hpc).2, e, he, hp, hsl, fun p hp => ⟨(ht p hp).1, (ht p hp).2.1⟩⟩

/-- corollary: no reachable configuration underflows — the abstract machine is never stuck at an
    instruction for lack of operands -/
theorem no_underflow {c : Code} {slots : Nat} {m : List Nat} {sk : List Bool} {strict : Bool}
    (h : check c slots m sk strict = true) {pc d : Nat} (hr : Reach c (pc, d)) (hpc : pc < c.length) :
    ∃ e, effectAt c pc = some e ∧ e.pops ≤ d := by
  obtain ⟨_, _, e, he, hp, _⟩ := (verify_sound h hr).at_instr hpc
  exact ⟨e, he, hp⟩

/-- corollary: all paths that reach an instruction do so with the same operand depth -/
theorem depth_unique {c : Code} {slots : Nat} {m : List Nat} {sk : List Bool} {strict : Bool}
    (h : check c slots m sk strict = true) {pc d d' : Nat} (h1 : Reach c (pc, d)) (h2 : Reach c (pc, d'))
    (hpc : pc < c.length) : d = d' :=
  Option.some.inj (((verify_sound h h1).at_instr hpc).1.symm.trans ((verify_sound h h2).at_instr hpc).1)

/-! ### non-vacuity: a loop with break/continue shape is accepted, a leaking loop is rejected -/

def okLoop : Code := [⟨"PUSH", 0, 0, 0, 1⟩, ⟨"LOCALSET", 0, 0, 0, 1⟩, ⟨"JUMP", 2, 0, 0, 1⟩, ⟨"LOCALINCDEC", 0, 1, 0, 1⟩,
  ⟨"PASS", 0, 0, 0, 1⟩, ⟨"LOCALGET", 0, 0, 0, 1⟩, ⟨"PUSH", 4, 0, 0, 1⟩, ⟨"LT", 0, 0, 0, 1⟩, ⟨"JUMPTRUE", -6, 0, 0, 1⟩,
  ⟨"LOCALGET", 0, 0, 0, 1⟩, ⟨"RETURN", 1, 0, 0, 1⟩]

/-- the loop body pushes a value it never pops: depths disagree at the loop head -/
def leaky : Code := [⟨"JUMP", 1, 0, 0, 1⟩, ⟨"PUSH", 7, 0, 0, 1⟩, ⟨"PUSH", 1, 0, 0, 1⟩, ⟨"JUMPTRUE", -3, 0, 0, 1⟩]

example : check okLoop 1 (depthMap okLoop) (skipped okLoop 20 0 []) true = true := by decide +kernel
example : check leaky 1 (depthMap leaky) (skipped leaky 20 0 []) false = false := by decide +kernel
example : Reach okLoop (5, 0) :=
  .step (.step (.step .start (by decide +kernel : (1, 1) ∈ astep okLoop (0, 0))) (by decide +kernel : (2, 0) ∈ astep okLoop (1, 1)))
    (by decide +kernel : (5, 0) ∈ astep okLoop (2, 0))

end Goat.Props.C07

#print axioms Goat.Props.C07.verify_sound
#print axioms Goat.Props.C07.no_underflow
#print axioms Goat.Props.C07.depth_unique
