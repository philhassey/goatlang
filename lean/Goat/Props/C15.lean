import Goat.Model.Load
/-!
# C15 — packages initialise once each, dependencies first, for any import graph

The ordering loop of `loadImports` (`Goat.Load.order`), for every number of packages and every
dependency relation (`deps k` is the list of packages `k` imports); then the discovery worklist
(`Goat.Load.discover`) and the two composed (`load_spec`, `load_ok_iff`).
-/
namespace Goat.Props.C15
open Goat.Load

/-- nothing a package depends on comes at or after it in the run order -/
def DepsFirst (deps : String → List String) : List String → Prop
  | [] => True
  | p :: t => (∀ b ∈ deps p, b ∉ p :: t) ∧ DepsFirst deps t

/-- the graph restricted to `keys` is acyclic, stated constructively: there is a rank that
    strictly decreases along every import edge -/
def HasRank (keys : List String) (deps : String → List String) : Prop :=
  ∃ rank : String → Nat, ∀ k ∈ keys, ∀ d ∈ deps k, rank d < rank k

/-- every imported package is itself one of the discovered packages -/
def Closed (keys : List String) (deps : String → List String) : Prop :=
  ∀ k ∈ keys, ∀ d ∈ deps k, d ∈ keys

theorem pick_some {keys : List String} {deps : String → List String} {p : String}
    (h : pick keys deps = some p) : p ∈ keys ∧ deps p = [] :=
  ⟨List.mem_of_find?_eq_some h, by simpa using List.find?_some h⟩

/-- **deterministic tie-break**: the package taken is the first eligible one in the (sorted) list -/
theorem pick_first {keys : List String} {deps : String → List String} {p : String}
    (h : pick keys deps = some p) :
    ∃ l1 l2, keys = l1 ++ p :: l2 ∧ ∀ k ∈ l1, deps k ≠ [] := by
  obtain ⟨_, l1, l2, e, hn⟩ := List.find?_eq_some_iff_append.mp h
  exact ⟨l1, l2, e, fun k hk => by simpa using hn k hk⟩

theorem mem_dropDep {deps : String → List String} {p k d : String} :
    d ∈ dropDep deps p k ↔ d ∈ deps k ∧ d ≠ p := by
  simp [dropDep]

/-! ### one round of the loop: `p` leaves `keys` and every dependency set -/

section round
variable {keys : List String} {deps : String → List String} {p : String}

theorem length_erase_le {n : Nat} (hm : p ∈ keys) (hl : keys.length ≤ n + 1) :
    (keys.erase p).length ≤ n := by
  rw [List.length_erase_of_mem hm]; exact Nat.sub_le_of_le_add hl

theorem closed_erase (hc : Closed keys deps) (p : String) :
    Closed (keys.erase p) (dropDep deps p) := fun k hk d hd =>
  have ⟨hd1, hd2⟩ := mem_dropDep.mp hd
  (List.mem_erase_of_ne hd2).mpr (hc k (List.mem_of_mem_erase hk) d hd1)

theorem hasRank_erase (hr : HasRank keys deps) (p : String) :
    HasRank (keys.erase p) (dropDep deps p) :=
  let ⟨rank, h⟩ := hr
  ⟨rank, fun k hk d hd => h k (List.mem_of_mem_erase hk) d (mem_dropDep.mp hd).1⟩

/-- and back: a package without dependencies is ranked below all the others -/
theorem hasRank_of_erase (hp : deps p = []) (hr : HasRank (keys.erase p) (dropDep deps p)) :
    HasRank keys deps := by
  obtain ⟨rank, h⟩ := hr
  refine ⟨fun x => if x = p then 0 else rank x + 1, fun k hk d hd => ?_⟩
  have hkp : k ≠ p := fun e => by rw [e, hp] at hd; cases hd
  dsimp only
  rw [if_neg hkp]
  split
  · exact Nat.succ_pos _
  · next hdp =>
    exact Nat.succ_lt_succ (h k ((List.mem_erase_of_ne hkp).mpr hk) d (mem_dropDep.mpr ⟨hd, hdp⟩))

theorem depsFirst_of_dropDep : ∀ {l : List String}, p ∉ l → DepsFirst (dropDep deps p) l →
    DepsFirst deps l
  | [], _, _ => trivial
  | _ :: _, hp, hd =>
    ⟨fun b hb => if hbp : b = p then hbp ▸ hp else hd.1 b (mem_dropDep.mpr ⟨hb, hbp⟩),
      depsFirst_of_dropDep (fun h => hp (List.mem_cons_of_mem _ h)) hd.2⟩

/-- a closed graph in which every package still waits for a dependency has no rank -/
theorem stuck_no_rank {a : String} (ha : a ∈ keys) (hp : pick keys deps = none)
    (hc : Closed keys deps) : ¬ HasRank keys deps := by
  rintro ⟨rank, hr⟩
  have hall := List.find?_eq_none.mp hp
  -- every package has a dependency of smaller rank among the packages, so every rank exceeds every number
  have big : ∀ n, ∀ k ∈ keys, n ≤ rank k := by
    intro n
    induction n with
    | zero => exact fun _ _ => Nat.zero_le _
    | succ n ih =>
      intro k hk
      obtain ⟨d, hd⟩ := List.exists_mem_of_ne_nil _ (mt List.isEmpty_iff.mpr (hall k hk))
      exact Nat.lt_of_le_of_lt (ih d (hc k hk d hd)) (hr k hk d hd)
  exact Nat.not_succ_le_self _ (big _ a ha)

end round

/-- **each package once, dependencies first**: when the loop succeeds its result lists every
    discovered package exactly once and no package comes before something it imports -/
theorem order_sound : ∀ (n : Nat) (keys : List String) (deps : String → List String) (l : List String),
    keys.Nodup → order n keys deps = .ok l → l.Perm keys ∧ l.Nodup ∧ DepsFirst deps l := by
  intro n keys deps l hnd h
  fun_induction order n keys deps generalizing l with
  | case1 => cases h; exact ⟨.refl _, List.nodup_nil, trivial⟩
  | case2 | case3 | case5 => cases h
  | case4 n a t deps p hp l' ho ih =>
    cases h
    obtain ⟨hmem, hnil⟩ := pick_some hp
    obtain ⟨hperm, hnd', hdf⟩ := ih l' (hnd.erase p) ho
    have hpl : p ∉ l' := fun hm => ((hnd.mem_erase_iff).mp (hperm.mem_iff.mp hm)).1 rfl
    exact ⟨(hperm.cons p).trans (List.perm_cons_erase hmem).symm, List.nodup_cons.mpr ⟨hpl, hnd'⟩,
      fun b hb => (by rw [hnil] at hb; cases hb), depsFirst_of_dropDep hpl hdf⟩

/-- a successful run ranks the packages, whatever the graph -/
theorem hasRank_of_order_ok {n : Nat} {keys : List String} {deps : String → List String}
    {l : List String} (h : order n keys deps = .ok l) : HasRank keys deps := by
  fun_induction order n keys deps generalizing l with
  | case1 => exact ⟨fun _ => 0, nofun⟩
  | case2 | case3 | case5 => cases h
  | case4 n a t deps p hp l' ho ih => exact hasRank_of_erase (pick_some hp).2 (ih ho)

/-- **every acyclic graph is ordered**: with enough fuel (the number of packages) the loop
    succeeds whenever the import relation has no cycle -/
theorem order_complete : ∀ (n : Nat) (keys : List String) (deps : String → List String),
    keys.length ≤ n → Closed keys deps → HasRank keys deps → ∃ l, order n keys deps = .ok l := by
  intro n keys deps hl hc hr
  fun_induction order n keys deps with
  | case1 | case4 => exact ⟨_, rfl⟩
  | case2 => cases hl
  | case3 n a t deps hp => exact absurd hr (stuck_no_rank (List.mem_cons_self ..) hp hc)
  | case5 n a t deps p hp e ho ih =>
    obtain ⟨l, hl'⟩ := ih (length_erase_le (pick_some hp).1 hl) (closed_erase hc p) (hasRank_erase hr p)
    rw [ho] at hl'; cases hl'

/-- fuel equal to the number of packages is always enough: the loop never stops for lack of it -/
theorem order_never_out_of_fuel : ∀ (n : Nat) (keys : List String) (deps : String → List String),
    keys.length ≤ n → order n keys deps ≠ .error .fuel := by
  intro n keys deps hl
  fun_induction order n keys deps with
  | case1 | case3 | case4 => intro h; cases h
  | case2 => cases hl
  | case5 n a t deps p hp e ho ih => exact ho ▸ ih (length_erase_le (pick_some hp).1 hl)

/-- **error ⇔ no valid initialisation order exists**: on a closed graph the loop succeeds exactly
    when the import relation is acyclic; otherwise it reports an import cycle (never anything else).
    `hnd` is not needed: a successful run ranks any graph (`hasRank_of_order_ok`). -/
theorem order_ok_iff_acyclic (keys : List String) (deps : String → List String)
    (hnd : keys.Nodup) (hc : Closed keys deps) :
    (∃ l, order keys.length keys deps = .ok l) ↔ HasRank keys deps :=
  ⟨fun ⟨_, hl⟩ => hasRank_of_order_ok hl, order_complete _ _ _ (Nat.le_refl _) hc⟩

/-- Neither `hnd` nor `hc` is needed: a run that succeeds yields a rank for any graph
    (`hasRank_of_order_ok`), and `order_never_out_of_fuel` excludes the other error. -/
theorem cycle_is_error (keys : List String) (deps : String → List String)
    (hnd : keys.Nodup) (hc : Closed keys deps) (h : ¬ HasRank keys deps) :
    order keys.length keys deps = .error .cycle := by
  cases ho : order keys.length keys deps with
  | ok => exact absurd (hasRank_of_order_ok ho) h
  | error e =>
    cases e with
    | cycle => rfl
    | fuel => exact absurd ho (order_never_out_of_fuel _ _ _ (Nat.le_refl _))

/-- a chain of imports inside the discovered packages -/
inductive Path (keys : List String) (deps : String → List String) : String → String → Prop
  | edge {a b} : a ∈ keys → b ∈ deps a → Path keys deps a b
  | trans {a b c} : Path keys deps a b → b ∈ keys → Path keys deps b c → Path keys deps a c

/-- an import cycle (a package reaching itself, a self-import included) rules out every rank, so
    by `cycle_is_error` the loader reports it -/
theorem cycle_no_rank (keys : List String) (deps : String → List String) (a : String)
    (h : Path keys deps a a) : ¬ HasRank keys deps := by
  rintro ⟨rank, hr⟩
  have : ∀ x y, Path keys deps x y → rank y < rank x := by
    intro x y hp
    induction hp with
    | edge ha hb => exact hr _ ha _ hb
    | trans _ _ _ ih1 ih2 => exact Nat.lt_trans ih2 ih1
  exact Nat.lt_irrefl _ (this a a h)

/-! ### non-vacuity: a diamond with a shared leaf, and a two-package cycle -/

def diamond : Imports := [("app", ["left", "right", "fmt"]), ("left", ["base"]), ("right", ["base"]), ("base", [])]
def cyc : Imports := [("a", ["b"]), ("b", ["a"])]

example : loadOrder diamond "app" = .ok ["base", "fmt", "left", "right", "app"] := by rfl
example : loadOrder cyc "a" = .error .cycle := by rfl
example : loadOrder [("a", ["a"])] "a" = .error .cycle := by rfl
example : HasRank ["app", "base", "fmt", "left", "right"] (importsOf diamond) :=
  ⟨fun k => if k = "app" then 2 else if k = "left" ∨ k = "right" then 1 else 0, by decide +kernel⟩

/-! ## Discovery, and discovery composed with ordering -/

/-- reachable from `top` along import edges -/
inductive Reach (g : Imports) (top : String) : String → Prop where
  | base : Reach g top top
  | step {p q} : Reach g top p → q ∈ importsOf g p → Reach g top q

def NodupKeys (g : Imports) : Prop := (g.map Prod.fst).Nodup

structure Res (g : Imports) (top : String) (R : List String) : Prop where
  closed : ∀ p ∈ R, ∀ q ∈ importsOf g p, q ∈ R
  reach : ∀ x ∈ R, Reach g top x
  nodup : R.Nodup
  top : top ∈ R

namespace Res

theorem mem_iff {g : Imports} {top : String} {R : List String} (h : Res g top R) (x : String) :
    x ∈ R ↔ Reach g top x :=
  ⟨h.reach x, fun hx => by
    induction hx with
    | base => exact h.top
    | step _ hq ih => exact h.closed _ ih _ hq⟩

theorem perm {g : Imports} {top : String} {R R' : List String} (h : Res g top R)
    (hp : R'.Perm R) : Res g top R' :=
  ⟨fun p hp' q hq => hp.mem_iff.mpr (h.closed p (hp.mem_iff.mp hp') q hq),
    fun x hx => h.reach x (hp.mem_iff.mp hx), hp.nodup_iff.mpr h.nodup, hp.mem_iff.mpr h.top⟩

end Res

/-- `Res` for `seen`, except that imports of seen packages may still wait in `todo` -/
structure Inv (g : Imports) (top : String) (todo seen : List String) : Prop where
  closedUpTo : ∀ p ∈ seen, ∀ q ∈ importsOf g p, q ∈ todo ++ seen
  reach : ∀ x ∈ todo ++ seen, Reach g top x
  nodup : seen.Nodup
  top : top ∈ todo ++ seen

section worklist
variable {g : Imports} {top p : String} {todo seen : List String}

namespace Inv

theorem init : Inv g top [top] [] :=
  ⟨nofun, fun _ hx => List.mem_singleton.mp hx ▸ .base, List.nodup_nil, List.mem_singleton_self _⟩

theorem done (h : Inv g top [] seen) : Res g top seen := ⟨h.closedUpTo, h.reach, h.nodup, h.top⟩

theorem skip (h : Inv g top (p :: todo) seen) (hp : p ∈ seen) : Inv g top todo seen :=
  have e {x} : x ∈ (p :: todo) ++ seen ↔ x ∈ todo ++ seen :=
    List.mem_cons.trans (or_iff_right_of_imp fun e => e ▸ List.mem_append_right _ hp)
  ⟨fun a ha q hq => e.mp (h.closedUpTo a ha q hq), fun x hx => h.reach x (e.mpr hx), h.nodup,
    e.mp h.top⟩

theorem visit (h : Inv g top (p :: todo) seen) (hp : p ∉ seen) :
    Inv g top (importsOf g p ++ todo) (p :: seen) :=
  have e {x} : x ∈ (importsOf g p ++ todo) ++ (p :: seen) ↔
      x ∈ importsOf g p ∨ x ∈ (p :: todo) ++ seen := by
    simp only [List.mem_append, List.mem_cons, or_assoc, or_left_comm]
  { closedUpTo := fun a ha q hq => e.mpr <| (List.mem_cons.mp ha).elim (fun ea => .inl (ea ▸ hq))
      fun ha => .inr (h.closedUpTo a ha q hq)
    reach := fun x hx => (e.mp hx).elim (.step (h.reach p (List.mem_cons_self ..))) (h.reach x)
    nodup := List.nodup_cons.mpr ⟨hp, h.nodup⟩
    top := e.mpr (.inr h.top) }

end Inv

theorem importsOf_cons (k : String) (v : List String) (g : Imports) (p : String) :
    importsOf ((k, v) :: g) p = if p = k then v else importsOf g p := by
  unfold importsOf
  rw [List.lookup_cons]
  by_cases h : p = k
  · rw [if_pos h, beq_iff_eq.mpr h]; rfl
  · rw [if_neg h, beq_false_of_ne h]

/-- import entries of the packages not yet seen: what can still be pushed on the worklist -/
def pending (g : Imports) (seen : List String) : Nat :=
  (g.map fun e => if seen.contains e.1 then 0 else e.2.length).sum

theorem pending_step (k : String) (v : List String) (g : Imports) (seen : List String) :
    pending ((k, v) :: g) seen = (if seen.contains k then 0 else v.length) + pending g seen := rfl

/-- seeing a new package uses up its import list (more, if `g` lists the package twice) -/
theorem pending_cons (g : Imports) (hp : p ∉ seen) :
    pending g (p :: seen) + (importsOf g p).length ≤ pending g seen := by
  induction g with
  | nil => exact Nat.le_refl _
  | cons e t ih =>
    obtain ⟨k, v⟩ := e
    rw [importsOf_cons, pending_step, pending_step]
    by_cases hk : p = k
    · subst hk; simp [hp]; omega
    · simp [hk, Ne.symm hk]; omega

/-- with fuel for the potential `pending g seen + todo.length`, which every round lowers, the worklist ends in
    the reachable packages -/
theorem discover_res (top : String) (fuel : Nat) (hf : pending g seen + todo.length ≤ fuel)
    (hi : Inv g top todo seen) : Res g top (discover g fuel todo seen) := by
  fun_induction discover g fuel todo seen with
  | case1 todo =>
    cases todo with
    | nil => exact hi.done
    | cons => exact absurd hf (Nat.not_succ_le_zero _)
  | case2 => exact hi.done
  | case3 fuel p todo seen hs ih =>
    exact ih (Nat.le_of_succ_le_succ hf) (hi.skip (List.contains_iff_mem.mp hs))
  | case4 fuel p todo seen hs ih =>
    have hp : p ∉ seen := mt List.contains_iff_mem.mpr hs
    refine ih ?_ (hi.visit hp)
    rw [List.length_append, ← Nat.add_assoc]
    exact Nat.le_trans (Nat.add_le_add_right (pending_cons g hp) _) (Nat.le_of_succ_le_succ hf)

end worklist

theorem discovered_res (g : Imports) (top : String) : Res g top (discovered g top) := by
  refine discover_res top _ ?_ Inv.init
  -- `E + 1` is needed, `E` the number of import entries; the model's fuel is `g.length * (E + 1) + 2`
  have : pending g [] = g.foldl (fun n p => n + p.2.length) 0 := by
    rw [pending, List.sum_eq_foldl_nat, List.foldl_map]; rfl
  rw [this]
  cases g with
  | nil => simp
  | cons => simp only [List.length_cons, List.length_nil, Nat.add_one_mul]; omega

theorem insertSorted_perm (s : String) (l : List String) : (insertSorted s l).Perm (s :: l) := by
  fun_induction insertSorted s l with
  | case1 | case2 => exact .refl _
  | case3 a t _ ih => exact (ih.cons a).trans (.swap s a t)

theorem sortStrings_perm (l : List String) : (sortStrings l).Perm l := by
  induction l with
  | nil => exact List.Perm.refl _
  | cons a t ih => exact (insertSorted_perm a _).trans (List.Perm.cons a ih)

/-- what `loadImports` hands to the ordering loop -/
theorem sorted_res (g : Imports) (top : String) : Res g top (sortStrings (discovered g top)) :=
  (discovered_res g top).perm (sortStrings_perm _)

/-- **discover_spec.** The worklist ends with exactly the packages reachable from the top package
    along import edges (missing packages included, as leaves), each once.
    `hn` is not needed: `discovered_res` holds for every `g`. -/
theorem discover_spec (g : Imports) (hn : NodupKeys g) (top : String) :
    (∀ x, x ∈ discovered g top ↔ Reach g top x) ∧ (discovered g top).Nodup ∧
    (∀ p ∈ discovered g top, ∀ q ∈ importsOf g p, q ∈ discovered g top) :=
  have h := discovered_res g top
  ⟨h.mem_iff, h.nodup, h.closed⟩

/-- **load_spec (discovery ∘ ordering).** When `loadImports` succeeds, the run order consists of
    exactly the packages reachable from the top package, each exactly once, and every package comes
    after everything it imports. `hn` is not needed (`discovered_res`). -/
theorem load_spec (g : Imports) (hn : NodupKeys g) (top : String) (l : List String)
    (h : loadOrder g top = .ok l) :
    (∀ x, x ∈ l ↔ Reach g top x) ∧ l.Nodup ∧ DepsFirst (importsOf g) l := by
  have hr := sorted_res g top
  obtain ⟨hperm, hndl, hdf⟩ := order_sound _ _ _ l hr.nodup h
  exact ⟨fun x => hperm.mem_iff.trans (hr.mem_iff x), hndl, hdf⟩

/-- **load_ok_iff.** `loadImports` succeeds exactly when the import relation restricted to the
    reachable packages is acyclic; otherwise it reports an import cycle. `hn` is not needed
    (`discovered_res`). -/
theorem load_ok_iff (g : Imports) (hn : NodupKeys g) (top : String) :
    (∃ l, loadOrder g top = .ok l) ↔ HasRank (sortStrings (discovered g top)) (importsOf g) :=
  have hr := sorted_res g top
  order_ok_iff_acyclic _ _ hr.nodup hr.closed

example : NodupKeys diamond := by unfold NodupKeys; decide

end Goat.Props.C15

#print axioms Goat.Props.C15.pick_first
#print axioms Goat.Props.C15.order_sound
#print axioms Goat.Props.C15.order_complete
#print axioms Goat.Props.C15.order_never_out_of_fuel
#print axioms Goat.Props.C15.order_ok_iff_acyclic
#print axioms Goat.Props.C15.cycle_is_error
#print axioms Goat.Props.C15.cycle_no_rank
#print axioms Goat.Props.C15.discover_spec
#print axioms Goat.Props.C15.load_spec
#print axioms Goat.Props.C15.load_ok_iff
