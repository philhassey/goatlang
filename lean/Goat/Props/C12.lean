import Goat.Model.IntMap
import Goat.Model.Struct
/-!
# C12 — struct fields are independent, typed, and shared through references

The robin-hood table of intmap.go behind struct fields and methods, for every table size, key set and
collision pattern. Under `ReadInv` (distinct resident keys, an empty slot, no empty slot between a
resident's home slot and its slot) the probe loop terminates and `Get` is the lookup among the
residents. The displacement walk of `insert`, for any outcome of its distance comparisons, keeps the core
invariant and adds exactly the inserted pair; `resize` keeps both the invariant and the residents. `Set`
keeps `Inv` (core, `total` = number of residents, load ≤ 3/4, hence an empty slot, at least four slots) and
updates `Get` like a finite map, so any history of `Set`s
from a fresh table reads like the association list of its writes (`history_refines`).

Over `Model/Struct.lean`: a store through any alias of an instance is seen through every alias and
touches nothing else (`setIndex_spec`); new instances and literals have exactly the fields of their type
(`alloc_inv`, `allocWith_spec`); a method added later is found on every instance
(`method_on_every_instance`). Type objects: a second declaration of a name is MERGED into the first
(`sync_spec`); `sync_keeps_dropped_field` / `sync_takes_new_value` state the open finding
`shadowed-local-type-keeps-outer-fields` as theorems about the model.

Not proved: `Delete` (backward shift) — the VM never deletes from a field table; it is covered by
the slot-for-slot correspondence only.
-/
namespace Goat.Props.C12
open Goat.IntMap Goat.Struct

variable {V : Type}

def Occ (pairs : List (Pair V)) (s : Nat) : Prop := ∃ p, pairs[s]? = some p ∧ p.distance ≠ 0

def Emp (pairs : List (Pair V)) (s : Nat) : Prop := ∃ p, pairs[s]? = some p ∧ p.distance = 0

theorem not_occ_of_emp {pairs : List (Pair V)} {e : Nat} (h1 : Emp pairs e) (h2 : Occ pairs e) : False := by
  obtain ⟨p, hp, hd⟩ := h1
  obtain ⟨q, hq, hqd⟩ := h2
  rw [hp] at hq; cases hq; exact hqd hd

/-- wrap-around successor arithmetic without `%`: for `x < 2n` -/
def wrap (n x : Nat) : Nat := if x < n then x else x - n

/-! ### cyclic arithmetic on slot indices

For `h, s < n`, `wrap n (h + j)` is the slot `j` steps after `h`, and `wrap n (s + n - h)` is the
number of steps from `h` to `s`. On `[0, 2n)` `wrap n` is `· % n` (`mod_eq_wrap`), which is how the
laws below are proved. -/

theorem wrap_lt {n x : Nat} (_hn : 0 < n) (hx : x < 2 * n) : wrap n x < n := by
  unfold wrap; split <;> omega

theorem wrap_add_zero {n i : Nat} (hi : i < n) : wrap n (i + 0) = i := if_pos hi

theorem wrap_succ_lt {n i : Nat} (hi : i < n) : wrap n (i + 1) < n :=
  wrap_lt (Nat.zero_lt_of_lt hi) (by omega)

theorem steps_lt {n h s : Nat} (hh : h < n) (hs : s < n) : wrap n (s + n - h) < n :=
  wrap_lt (Nat.zero_lt_of_lt hh) (by omega)

theorem mod_eq_wrap {n x : Nat} (hx : x < 2 * n) : x % n = wrap n x := by
  unfold wrap
  split
  · exact Nat.mod_eq_of_lt ‹_›
  · rw [Nat.mod_eq_sub_mod (by omega), Nat.mod_eq_of_lt (by omega)]

theorem wrap_wrap_add {n a b : Nat} (h : a + b < 2 * n) : wrap n (wrap n a + b) = wrap n (a + b) := by
  have := Nat.mod_le a n
  rw [← mod_eq_wrap h, ← mod_eq_wrap (x := a) (by omega), ← mod_eq_wrap (by omega), Nat.mod_add_mod]

theorem wrap_succ_add {n i j : Nat} (hi : i < n) (hj : j < n) :
    wrap n (wrap n (i + 1) + j) = wrap n (i + (j + 1)) := by
  rw [wrap_wrap_add (by omega), Nat.add_right_comm]; rfl

theorem wrap_add_eq_iff {n h s j : Nat} (hh : h < n) (hs : s < n) (hj : j < n) :
    wrap n (h + j) = s ↔ j = wrap n (s + n - h) := by
  rw [← mod_eq_wrap (x := h + j) (by omega), ← mod_eq_wrap (x := s + n - h) (by omega)]
  constructor
  · rintro rfl
    rw [Nat.add_sub_assoc (Nat.le_of_lt hh), Nat.mod_add_mod, Nat.add_right_comm,
      Nat.add_sub_cancel' (Nat.le_of_lt hh), Nat.add_mod_left, Nat.mod_eq_of_lt hj]
  · rintro rfl
    rw [Nat.add_mod_mod, Nat.add_sub_cancel' (Nat.le_trans (Nat.le_of_lt hh) (Nat.le_add_left n s)),
      Nat.add_mod_right, Nat.mod_eq_of_lt hs]

/-- the slot after `s` is at most one step further from `h` (it is `0` steps away if it is `h`) -/
theorem steps_succ_le {n h s : Nat} (hh : h < n) (hs : s < n) :
    wrap n (wrap n (s + 1) + n - h) ≤ wrap n (s + n - h) + 1 := by
  have hd := steps_lt hh hs
  by_cases hd1 : wrap n (s + n - h) + 1 < n
  · -- one step more than from `h` to `s` ends at the slot after `s`
    have : wrap n (h + (wrap n (s + n - h) + 1)) = wrap n (s + 1) := by
      rw [← Nat.add_assoc, ← wrap_wrap_add (n := n) (a := h + wrap n (s + n - h)) (by omega),
        (wrap_add_eq_iff hh hs hd).mpr rfl]
    exact Nat.le_of_eq ((wrap_add_eq_iff hh (wrap_succ_lt hs) hd1).mp this).symm
  · exact Nat.le_trans (Nat.le_of_lt (steps_lt hh (wrap_succ_lt hs))) (Nat.le_of_not_lt hd1)

theorem reach_any {n i e : Nat} (hi : i < n) (he : e < n) : ∃ j, j < n ∧ wrap n (i + j) = e :=
  ⟨_, steps_lt hi he, (wrap_add_eq_iff hi he (steps_lt hi he)).mpr rfl⟩

/-- the invariant the probe loops rely on -/
structure ReadInv (pairs : List (Pair V)) : Prop where
  size_pos : 0 < pairs.length
  has_empty : ∃ (e : Nat) (p : Pair V), pairs[e]? = some p ∧ p.distance = 0
  unique : ∀ (s t : Nat) (p q : Pair V), pairs[s]? = some p → pairs[t]? = some q → p.distance ≠ 0 → q.distance ≠ 0 →
    p.key = q.key → s = t
  /-- from the home slot of a resident up to its slot every slot is occupied -/
  nogap : ∀ (s : Nat) (p : Pair V), pairs[s]? = some p → p.distance ≠ 0 →
    ∀ j, j < wrap pairs.length (s + pairs.length - slot pairs.length p.key) →
      Occ pairs (wrap pairs.length (slot pairs.length p.key + j))

theorem slot_lt {n : Nat} (hn : 0 < n) (k : Int) : slot n k < n := by
  unfold slot
  have h1 : 0 ≤ k % (n : Int) := Int.emod_nonneg _ (by omega)
  have h2 : k % (n : Int) < n := Int.emod_lt_of_pos _ (by omega)
  omega

theorem probe_mod (pairs : List (Pair V)) (key : Int) (fuel i : Nat) :
    probe pairs key fuel (i % pairs.length) = probe pairs key fuel i := by
  cases fuel with
  | zero => rfl
  | succ f => rw [probe, probe, Nat.mod_mod]

theorem probe_step {pairs : List (Pair V)} {i : Nat} {p : Pair V} (key : Int) (fuel : Nat)
    (hi : i < pairs.length) (hp : pairs[i]? = some p) :
    probe pairs key (fuel + 1) i =
      if p.distance = 0 then some (.empty i)
      else if p.key = key then some (.found i)
      else probe pairs key fuel (wrap pairs.length (i + 1)) := by
  rw [probe, ← mod_eq_wrap (x := i + 1) (by omega), probe_mod]
  simp only [Nat.mod_eq_of_lt hi, hp]

/-- the probe meets slot `wrap n (i+j)` after passing `j` occupied slots with other keys -/
theorem probe_reaches (pairs : List (Pair V)) (key : Int) :
    ∀ (j fuel i : Nat), i < pairs.length → j < fuel → j < pairs.length →
      (∀ t, t < j → ∃ p, pairs[wrap pairs.length (i + t)]? = some p ∧ p.distance ≠ 0 ∧ p.key ≠ key) →
      probe pairs key fuel i = probe pairs key (fuel - j) (wrap pairs.length (i + j)) := by
  intro j
  induction j with
  | zero => intro fuel i hi _ _ _; rw [wrap_add_zero hi]; rfl
  | succ j ih =>
    intro fuel i hi hf hj hpass
    obtain ⟨p, hp, hd, hk⟩ := hpass 0 (Nat.succ_pos j)
    rw [wrap_add_zero hi] at hp
    cases fuel with
    | zero => exact absurd hf (Nat.not_lt_zero _)
    | succ fuel =>
      have hj' := Nat.lt_of_succ_lt hj
      rw [probe_step key fuel hi hp, if_neg hd, if_neg hk,
        ih fuel _ (wrap_succ_lt hi) (Nat.lt_of_succ_lt_succ hf) hj', wrap_succ_add hi hj', Nat.add_sub_add_right]
      intro t ht
      rw [wrap_succ_add hi (Nat.lt_trans ht hj')]
      exact hpass (t + 1) (Nat.succ_lt_succ ht)

/-- **find_present.** A resident key is found at its own slot. -/
theorem find_present (pairs : List (Pair V)) (h : ReadInv pairs) (s : Nat) (p : Pair V)
    (hp : pairs[s]? = some p) (hd : p.distance ≠ 0) :
    probe pairs p.key pairs.length (slot pairs.length p.key) = some (.found s) := by
  have hs : s < pairs.length := (List.getElem?_eq_some_iff.mp hp).1
  have hh := slot_lt h.size_pos p.key
  have hdlt := steps_lt hh hs
  rw [probe_reaches pairs p.key _ _ _ hh hdlt hdlt, (wrap_add_eq_iff hh hs hdlt).mpr rfl]
  · obtain ⟨f, hf⟩ : ∃ f, pairs.length - wrap pairs.length (s + pairs.length - slot pairs.length p.key) = f + 1 :=
      ⟨_, (Nat.succ_pred_eq_of_pos (Nat.sub_pos_of_lt hdlt)).symm⟩
    rw [hf, probe_step p.key f hs hp, if_neg hd, if_pos rfl]
  · -- the slots before `s` on the way from home are occupied (`nogap`), by other keys (`unique`)
    intro t ht
    obtain ⟨q, hq, hqd⟩ := h.nogap s p hp hd t ht
    refine ⟨q, hq, hqd, fun hk => Nat.ne_of_lt ht ?_⟩
    exact (wrap_add_eq_iff hh hs (Nat.lt_trans ht hdlt)).mp (h.unique _ _ q p hq hp hqd hd hk)

theorem emp_ahead {pairs : List (Pair V)} {idx d : Nat} (hi : idx < pairs.length) (hd : d < pairs.length)
    (he : Emp pairs (wrap pairs.length (idx + d))) (ho : Occ pairs idx) :
    ∃ d', d = d' + 1 ∧ Emp pairs (wrap pairs.length (wrap pairs.length (idx + 1) + d')) := by
  cases d with
  | zero => rw [wrap_add_zero hi] at he; exact (not_occ_of_emp he ho).elim
  | succ d => exact ⟨d, rfl, by rw [wrap_succ_add hi (Nat.lt_of_succ_lt hd)]; exact he⟩

/-- the probe stops within `fuel` steps as soon as some slot within reach is empty -/
theorem probe_total (pairs : List (Pair V)) (key : Int) :
    ∀ (fuel i : Nat), i < pairs.length → fuel ≤ pairs.length →
      (∃ j, j < fuel ∧ Emp pairs (wrap pairs.length (i + j))) → ∃ r, probe pairs key fuel i = some r := by
  intro fuel
  induction fuel with
  | zero => intro i _ _ ⟨j, hj, _⟩; exact absurd hj (Nat.not_lt_zero j)
  | succ fuel ih =>
    intro i hi hf ⟨j, hj, he⟩
    obtain ⟨p, hp⟩ : ∃ p, pairs[i]? = some p := ⟨pairs[i], List.getElem?_eq_getElem hi⟩
    rw [probe_step key fuel hi hp]
    by_cases hd : p.distance = 0
    · exact ⟨_, if_pos hd⟩
    · rw [if_neg hd]
      by_cases hk : p.key = key
      · exact ⟨_, if_pos hk⟩
      · rw [if_neg hk]
        obtain ⟨j, rfl, he'⟩ := emp_ahead hi (Nat.lt_of_lt_of_le hj hf) he ⟨p, hp, hd⟩
        exact ih _ (wrap_succ_lt hi) (Nat.le_of_succ_le hf) ⟨j, Nat.lt_of_succ_lt_succ hj, he'⟩

theorem probe_found_sound (pairs : List (Pair V)) (key : Int) : ∀ (fuel i r : Nat),
    probe pairs key fuel i = some (.found r) → ∃ p, pairs[r]? = some p ∧ p.distance ≠ 0 ∧ p.key = key := by
  intro fuel
  induction fuel with
  | zero => intro i r h; cases h
  | succ fuel ih =>
    intro i r h
    rw [probe] at h
    split at h
    · cases h
    · next p hp =>
      split at h
      · cases h
      · split at h
        · cases h; exact ⟨p, hp, ‹_›, ‹_›⟩
        · exact ih _ r h

/-- **find_total.** With the invariant, `find` always answers (the Go loop terminates). -/
theorem find_total (m : IM V) (h : ReadInv m.pairs) (key : Int) : ∃ r, m.find key = some r := by
  obtain ⟨e, p, hp, hd⟩ := h.has_empty
  have hh := slot_lt h.size_pos key
  obtain ⟨j, hj, hje⟩ := reach_any hh (List.getElem?_eq_some_iff.mp hp).1
  exact probe_total m.pairs key m.pairs.length (slot m.pairs.length key) hh (Nat.le_refl _)
    ⟨j, hj, p, by rw [hje]; exact hp, hd⟩

/-- **find_absent.** A key that no resident carries is reported absent. -/
theorem find_absent (m : IM V) (h : ReadInv m.pairs) (key : Int)
    (habs : ∀ (s : Nat) (q : Pair V), m.pairs[s]? = some q → q.distance ≠ 0 → q.key ≠ key) :
    ∃ e, m.find key = some (.empty e) := by
  obtain ⟨r, hr⟩ := find_total m h key
  cases r with
  | empty e => exact ⟨e, hr⟩
  | found i =>
    obtain ⟨q, hq, hqd, hk⟩ := probe_found_sound m.pairs key _ _ i hr
    exact absurd hk (habs i q hq hqd)

/-- **get_present.** `Get` returns the value stored under a resident key. -/
theorem get_present (m : IM V) (h : ReadInv m.pairs) (s : Nat) (p : Pair V)
    (hp : m.pairs[s]? = some p) (hd : p.distance ≠ 0) : m.get p.key = some p.value := by
  unfold IM.get IM.find IM.size
  rw [find_present m.pairs h s p hp hd]
  simp [hp]

/-- **get_absent.** `Get` of a key that no resident carries reports "no such field". -/
theorem get_absent (m : IM V) (h : ReadInv m.pairs) (key : Int)
    (habs : ∀ (s : Nat) (q : Pair V), m.pairs[s]? = some q → q.distance ≠ 0 → q.key ≠ key) : m.get key = none := by
  obtain ⟨e, he⟩ := find_absent m h key habs
  unfold IM.get
  rw [he]

theorem mkTable_empty [Inhabited V] {size total s : Nat} {p : Pair V}
    (hp : (mkTable (V := V) size total).pairs[s]? = some p) : p.distance = 0 := by
  obtain ⟨_, rfl⟩ := List.getElem?_eq_some_iff.mp hp
  simp [mkTable, emptyPair]

theorem new_inv [Inhabited V] (size : Nat) (hs : 0 < size) :
    ReadInv (mkTable (V := V) size 0).pairs :=
  ⟨by simp [mkTable, hs], ⟨0, emptyPair, by simp [mkTable, hs], rfl⟩,
    fun _ _ _ _ hp _ hd => absurd (mkTable_empty hp) hd, fun _ _ hp hd => absurd (mkTable_empty hp) hd⟩

/-! ### non-vacuity: a table with a wrap-around collision chain -/

/-- keys 15, 31, 47 all hash to slot 15 of a 16-slot table: 31 wraps to slot 0, 47 to slot 1 -/
def chain : IM Nat :=
  ((((Goat.IntMap.new 0 : IM Nat).set 15 150).bind (·.set 31 310)).bind (·.set 47 470)).getD ⟨[], 0⟩

example : chain.get 47 = some 470 ∧ chain.get 31 = some 310 ∧ chain.get 15 = some 150 ∧ chain.get 63 = none ∧
    (chain.pairs.map (·.distance)).take 3 = [2, 3, 0] := by decide

/-- no empty slot in the cyclic interval [h, s) -/
def Clear (pairs : List (Pair V)) (h s : Nat) : Prop :=
  ∀ j, j < wrap pairs.length (s + pairs.length - h) → Occ pairs (wrap pairs.length (h + j))

def Res (pairs : List (Pair V)) (k : Int) (v : V) : Prop :=
  ∃ (s : Nat) (p : Pair V), pairs[s]? = some p ∧ p.distance ≠ 0 ∧ p.key = k ∧ p.value = v

/-- `ReadInv` without its empty slot (`readInv_iff`): what an insertion, which uses one up, keeps -/
structure Core (pairs : List (Pair V)) : Prop where
  size_pos : 0 < pairs.length
  unique : ∀ (s t : Nat) (p q : Pair V), pairs[s]? = some p → pairs[t]? = some q → p.distance ≠ 0 → q.distance ≠ 0 →
    p.key = q.key → s = t
  nogap : ∀ (s : Nat) (p : Pair V), pairs[s]? = some p → p.distance ≠ 0 → Clear pairs (slot pairs.length p.key) s

theorem readInv_iff (pairs : List (Pair V)) : ReadInv pairs ↔ Core pairs ∧ ∃ e, Emp pairs e :=
  ⟨fun h => ⟨⟨h.size_pos, h.unique, h.nogap⟩, h.has_empty⟩, fun ⟨c, e⟩ => ⟨c.size_pos, e, c.unique, c.nogap⟩⟩

theorem clear_self {pairs : List (Pair V)} {h : Nat} (hh : h < pairs.length) : Clear pairs h h := by
  intro j hj
  rw [← (wrap_add_eq_iff hh hh (Nat.zero_lt_of_lt hh)).mp (wrap_add_zero hh)] at hj
  exact absurd hj (Nat.not_lt_zero j)

/-- stepping over an occupied slot extends the clear interval (which is empty again after a full circle) -/
theorem clear_step {pairs : List (Pair V)} {h s : Nat} (hh : h < pairs.length) (hs : s < pairs.length)
    (hc : Clear pairs h s) (ho : Occ pairs s) : Clear pairs h (wrap pairs.length (s + 1)) := by
  intro j hj
  rcases Nat.lt_or_eq_of_le (Nat.le_of_lt_succ (Nat.lt_of_lt_of_le hj (steps_succ_le hh hs))) with hlt | rfl
  · exact hc j hlt
  · rw [(wrap_add_eq_iff hh hs (steps_lt hh hs)).mpr rfl]; exact ho

theorem getElem?_set_some {α : Type} {l : List α} {i s : Nat} {x p : α} (h : (l.set i x)[s]? = some p) :
    (s = i ∧ p = x) ∨ (s ≠ i ∧ l[s]? = some p) := by
  by_cases e : i = s
  · subst e
    have hi : i < l.length := by rw [← List.length_set (a := x)]; exact (List.getElem?_eq_some_iff.mp h).1
    rw [List.getElem?_set_self hi] at h
    exact Or.inl ⟨rfl, (Option.some.inj h).symm⟩
  · rw [List.getElem?_set_ne e] at h
    exact Or.inr ⟨Ne.symm e, h⟩

theorem occ_set {pairs : List (Pair V)} {t : Nat} (idx : Nat) {x : Pair V} (hx : x.distance ≠ 0)
    (ht : Occ pairs t) : Occ (pairs.set idx x) t := by
  obtain ⟨q, hq, hqd⟩ := ht
  by_cases e : idx = t
  · exact ⟨x, by rw [e, List.getElem?_set_self (List.getElem?_eq_some_iff.mp hq).1], hx⟩
  · exact ⟨q, by rw [List.getElem?_set_ne e]; exact hq, hqd⟩

theorem emp_set {pairs : List (Pair V)} {t idx : Nat} (x : Pair V) (he : Emp pairs t) (ho : Occ pairs idx) :
    Emp (pairs.set idx x) t := by
  obtain ⟨q, hq, hqd⟩ := he
  refine ⟨q, ?_, hqd⟩
  rw [List.getElem?_set_ne]
  · exact hq
  · rintro rfl
    exact not_occ_of_emp ⟨q, hq, hqd⟩ ho

/-- `Clear` only depends on which slots are occupied -/
theorem clear_set {pairs : List (Pair V)} {h s : Nat} (idx : Nat) {x : Pair V} (hx : x.distance ≠ 0)
    (hc : Clear pairs h s) : Clear (pairs.set idx x) h s := by
  intro j hj
  rw [List.length_set] at hj ⊢
  exact occ_set idx hx (hc j hj)

theorem core_set (pairs : List (Pair V)) (hc : Core pairs) (idx : Nat) (x : Pair V)
    (hx : x.distance ≠ 0)
    (hfresh : ∀ (s : Nat) (p : Pair V), s ≠ idx → pairs[s]? = some p → p.distance ≠ 0 → p.key ≠ x.key)
    (hclr : Clear pairs (slot pairs.length x.key) idx) : Core (pairs.set idx x) := by
  refine ⟨by rw [List.length_set]; exact hc.size_pos, ?_, ?_⟩
  · intro s t p q hp hq hpd hqd hk
    rcases getElem?_set_some hp with ⟨hs, rfl⟩ | ⟨hs, hp'⟩ <;> rcases getElem?_set_some hq with ⟨ht, rfl⟩ | ⟨ht, hq'⟩
    · rw [hs, ht]
    · exact absurd hk.symm (hfresh t q ht hq' hqd)
    · exact absurd hk (hfresh s p hs hp' hpd)
    · exact hc.unique s t p q hp' hq' hpd hqd hk
  · intro s p hp hpd
    rw [List.length_set]
    rcases getElem?_set_some hp with ⟨rfl, rfl⟩ | ⟨_, hp'⟩
    · exact clear_set _ hx hclr
    · exact clear_set _ hx (hc.nogap s p hp' hpd)

def countOcc : List (Pair V) → Nat
  | [] => 0
  | p :: t => (if p.distance = 0 then 0 else 1) + countOcc t

/-- the predicate `resize` filters by -/
def occB (p : Pair V) : Bool := decide (p.distance ≠ 0)

theorem countOcc_eq_countP (pairs : List (Pair V)) : countOcc pairs = pairs.countP occB := by
  induction pairs with
  | nil => rfl
  | cons a t ih =>
    rw [countOcc, List.countP_cons, ih, Nat.add_comm]
    by_cases ha : a.distance = 0 <;> simp [occB, ha]

theorem countOcc_le (pairs : List (Pair V)) : countOcc pairs ≤ pairs.length := by
  rw [countOcc_eq_countP]; exact List.countP_le_length

theorem countOcc_set (pairs : List (Pair V)) (idx : Nat) (x old : Pair V) (ho : pairs[idx]? = some old) :
    countOcc (pairs.set idx x) + (if old.distance = 0 then 0 else 1) =
      countOcc pairs + (if x.distance = 0 then 0 else 1) := by
  obtain ⟨hi, rfl⟩ := List.getElem?_eq_some_iff.mp ho
  have hpos : (if occB pairs[idx] = true then 1 else 0) ≤ pairs.countP occB := by
    split
    · exact List.countP_pos_iff.mpr ⟨_, List.getElem_mem hi, ‹_›⟩
    · exact Nat.zero_le _
  rw [countOcc_eq_countP, countOcc_eq_countP, List.countP_set hi]
  simp only [occB, decide_eq_true_eq, ne_eq, ite_not] at hpos ⊢
  omega

theorem emp_of_count (pairs : List (Pair V)) (h : countOcc pairs < pairs.length) : ∃ e, Emp pairs e := by
  rw [countOcc_eq_countP, List.countP_eq_length_filter, List.length_filter_lt_length_iff_exists] at h
  obtain ⟨p, hp, hd⟩ := h
  obtain ⟨e, he⟩ := List.mem_iff_getElem?.mp hp
  exact ⟨e, p, he, by simpa [occB] using hd⟩

/-- what `insert` must achieve -/
structure Post (pairs : List (Pair V)) (key : Int) (value : V) (pairs' : List (Pair V)) : Prop where
  len : pairs'.length = pairs.length
  core : Core pairs'
  res : ∀ k v, Res pairs' k v ↔ (Res pairs k v ∨ (k = key ∧ v = value))
  count : countOcc pairs' = countOcc pairs + 1

/-- the residents in the slots other than `idx` -/
def ResOff (pairs : List (Pair V)) (idx : Nat) (k : Int) (v : V) : Prop :=
  ∃ (s : Nat) (p : Pair V), s ≠ idx ∧ pairs[s]? = some p ∧ p.distance ≠ 0 ∧ p.key = k ∧ p.value = v

theorem res_set {pairs : List (Pair V)} {idx : Nat} (x : Pair V) (hi : idx < pairs.length) (k : Int) (v : V) :
    Res (pairs.set idx x) k v ↔ (ResOff pairs idx k v ∨ (x.distance ≠ 0 ∧ k = x.key ∧ v = x.value)) := by
  constructor
  · rintro ⟨s, p, hp, hd, hk, hv⟩
    rcases getElem?_set_some hp with ⟨_, rfl⟩ | ⟨hs, hp⟩
    · exact Or.inr ⟨hd, hk.symm, hv.symm⟩
    · exact Or.inl ⟨s, p, hs, hp, hd, hk, hv⟩
  · rintro (⟨s, p, hs, hp, hd, hk, hv⟩ | ⟨hd, hk, hv⟩)
    · exact ⟨s, p, by rw [List.getElem?_set_ne (Ne.symm hs)]; exact hp, hd, hk, hv⟩
    · exact ⟨idx, x, List.getElem?_set_self hi, hd, hk.symm, hv.symm⟩

theorem res_at {pairs : List (Pair V)} {idx : Nat} {p : Pair V} (hp : pairs[idx]? = some p) (k : Int) (v : V) :
    Res pairs k v ↔ (ResOff pairs idx k v ∨ (p.distance ≠ 0 ∧ k = p.key ∧ v = p.value)) := by
  obtain ⟨hi, rfl⟩ := List.getElem?_eq_some_iff.mp hp
  rw [← res_set _ hi, List.set_getElem_self]

/-- The walk carries a pair `c` whose key is not resident, has seen only occupied slots from `c`'s home
    slot to `i`, and has an empty slot within `fuel` steps ahead. Of `distance` only `= 0` / `≠ 0` is ever
    used, so the conclusion holds whichever way the robin-hood comparisons go (and `Core` says nothing about
    the distances themselves, which `Delete` would need). -/
theorem insertLoop_post : ∀ (fuel : Nat) (pairs : List (Pair V)) (i : Nat) (c : Pair V),
    Core pairs → c.distance ≠ 0 →
    (∀ (s : Nat) (p : Pair V), pairs[s]? = some p → p.distance ≠ 0 → p.key ≠ c.key) →
    Clear pairs (slot pairs.length c.key) (i % pairs.length) →
    (∃ d, d < fuel ∧ d < pairs.length ∧ Emp pairs (wrap pairs.length (i % pairs.length + d))) →
    ∃ pairs', insertLoop fuel pairs i c = some pairs' ∧ Post pairs c.key c.value pairs' := by
  intro fuel
  induction fuel with
  | zero => intro pairs i c _ _ _ _ ⟨d, hd, _⟩; exact absurd hd (Nat.not_lt_zero d)
  | succ fuel ih =>
    intro pairs i c hcore hcd hfresh hclr ⟨d, hdf, hdn, hemp⟩
    have hn := hcore.size_pos
    have hidx : i % pairs.length < pairs.length := Nat.mod_lt _ hn
    generalize hI : i % pairs.length = idx at hidx hclr hemp
    obtain ⟨p, hp⟩ : ∃ p, pairs[idx]? = some p := ⟨pairs[idx], List.getElem?_eq_getElem hidx⟩
    have hnext : (idx + 1) % pairs.length = wrap pairs.length (idx + 1) := mod_eq_wrap (by omega)
    rw [insertLoop]
    simp only [hI, hp]
    by_cases hlt : p.distance < c.distance
    · rw [if_pos hlt]
      have hcs := core_set pairs hcore idx c hcd (fun s q _ hq hqd => hfresh s q hq hqd) hclr
      have hcnt := countOcc_set pairs idx c p hp
      rw [if_neg hcd] at hcnt
      by_cases hp0 : p.distance = 0
      · -- the walk ends: the carried pair takes the empty slot
        rw [if_pos hp0] at hcnt ⊢
        refine ⟨_, rfl, List.length_set .., hcs, fun k v => ?_, hcnt⟩
        rw [res_set c hidx, res_at hp]
        simp only [hp0, hcd, ne_eq, not_true_eq_false, not_false_eq_true, false_and, or_false, true_and]
      · -- swap: the resident is carried on
        rw [if_neg hp0] at hcnt ⊢
        have hocc : Occ pairs idx := ⟨p, hp, hp0⟩
        have hl1 : (pairs.set idx c).length = pairs.length := List.length_set ..
        obtain ⟨d, rfl, hemp'⟩ := emp_ahead hidx hdn hemp hocc
        obtain ⟨pairs', hrun, hpost⟩ := ih (pairs.set idx c) (idx + 1) { p with distance := p.distance + 1 } hcs
          (Nat.succ_ne_zero _)
          (by
            intro s q hq hqd e
            rcases getElem?_set_some hq with ⟨_, rfl⟩ | ⟨hs, hq'⟩
            · exact hfresh idx p hp hp0 e.symm
            · exact hs (hcore.unique s idx q p hq' hp hqd hp0 e))
          (by
            rw [hl1, hnext]
            exact clear_set _ hcd (clear_step (slot_lt hn p.key) hidx (hcore.nogap idx p hp hp0) hocc))
          ⟨d, Nat.lt_of_succ_lt_succ hdf, by rw [hl1]; exact Nat.lt_of_succ_lt hdn, by
            rw [hl1, hnext]
            exact emp_set c hemp' hocc⟩
        refine ⟨pairs', hrun, hpost.len.trans hl1, hpost.core, fun k v => ?_, hpost.count.trans hcnt⟩
        rw [hpost.res, res_set c hidx, res_at hp]
        simp only [hp0, hcd, ne_eq, not_false_eq_true, true_and]
        exact or_right_comm
    · -- pass: the resident is at least as far from home
      rw [if_neg hlt]
      have hocc : Occ pairs idx := ⟨p, hp, fun e => hlt (e ▸ Nat.pos_of_ne_zero hcd)⟩
      obtain ⟨d, rfl, hemp'⟩ := emp_ahead hidx hdn hemp hocc
      exact ih pairs (idx + 1) { c with distance := c.distance + 1 } hcore (Nat.succ_ne_zero _) hfresh
        (by rw [hnext]; exact clear_step (slot_lt hn c.key) hidx hclr hocc)
        ⟨d, Nat.lt_of_succ_lt_succ hdf, Nat.lt_of_succ_lt hdn, by rw [hnext]; exact hemp'⟩

/-- **insertRaw_post.** Inserting a key that is not resident into a table that satisfies the read
    invariant succeeds and yields a table with the same residents plus the new one, satisfying the
    core invariant again. -/
theorem insertRaw_post (pairs : List (Pair V)) (hinv : ReadInv pairs) (key : Int) (value : V)
    (hfresh : ∀ (s : Nat) (p : Pair V), pairs[s]? = some p → p.distance ≠ 0 → p.key ≠ key) :
    ∃ pairs', insertRaw pairs key value = some pairs' ∧ Post pairs key value pairs' := by
  have hh := slot_lt hinv.size_pos key
  obtain ⟨e, pe, hpe, hde⟩ := hinv.has_empty
  obtain ⟨j, hj, hje⟩ := reach_any hh (List.getElem?_eq_some_iff.mp hpe).1
  have hmod : slot pairs.length key % pairs.length = slot pairs.length key := Nat.mod_eq_of_lt hh
  exact insertLoop_post _ pairs _ { distance := 1, key := key, value := value }
    ((readInv_iff pairs).mp hinv).1 Nat.one_ne_zero hfresh
    (by rw [hmod]; exact clear_self hh)
    ⟨j, by omega, hj, by rw [hmod, hje]; exact ⟨pe, hpe, hde⟩⟩

theorem res_update (pairs : List (Pair V)) (hc : Core pairs) (i : Nat) (p : Pair V) (hp : pairs[i]? = some p)
    (hd : p.distance ≠ 0) (v : V) (k : Int) (w : V) :
    Res (pairs.set i { p with value := v }) k w ↔ ((k = p.key ∧ w = v) ∨ (k ≠ p.key ∧ Res pairs k w)) := by
  rw [res_set _ (List.getElem?_eq_some_iff.mp hp).1, or_comm]
  refine or_congr (and_iff_right hd) ⟨?_, ?_⟩
  · rintro ⟨s, q, hs, hq, hqd, hk, hv⟩
    exact ⟨fun e => hs (hc.unique s i q p hq hp hqd hd (hk.trans e)), s, q, hq, hqd, hk, hv⟩
  · rintro ⟨hne, s, q, hq, hqd, hk, hv⟩
    refine ⟨s, q, ?_, hq, hqd, hk, hv⟩
    rintro rfl
    rw [hp] at hq; cases hq
    exact hne hk.symm

structure Inv (m : IM V) : Prop where
  core : Core m.pairs
  total_eq : m.total = countOcc m.pairs
  load : m.total ≤ m.max
  room : 4 ≤ m.size

/-- `intMapMaxNum / intMapMaxDen`: the load factor is 3/4 -/
theorem max_eq (m : IM V) : m.max = m.pairs.length * 3 / 4 := rfl

theorem Inv.readInv {m : IM V} (h : Inv m) : ReadInv m.pairs := by
  rw [readInv_iff]
  refine ⟨h.core, emp_of_count m.pairs ?_⟩
  have h0 := h.core.size_pos
  have h1 := h.total_eq
  have h2 := h.load
  rw [max_eq] at h2
  omega

/-- under the invariant, `Get` is the lookup of the residents -/
theorem get_iff_res (m : IM V) (h : ReadInv m.pairs) (k : Int) (v : V) : m.get k = some v ↔ Res m.pairs k v := by
  constructor
  · intro hg
    unfold IM.get at hg
    split at hg
    · next i hf =>
      obtain ⟨p, hp, hpd, hpk⟩ := probe_found_sound m.pairs k _ _ i hf
      rw [hp] at hg
      exact ⟨i, p, hp, hpd, hpk, Option.some.inj hg⟩
    · cases hg
  · rintro ⟨s, q, hq, hqd, rfl, rfl⟩
    exact get_present m h s q hq hqd

theorem get_of_res_update {m m' : IM V} (h : Inv m) (h' : Inv m') {k : Int} {v : V}
    (hres : ∀ k' w, Res m'.pairs k' w ↔ ((k' = k ∧ w = v) ∨ (k' ≠ k ∧ Res m.pairs k' w))) (k' : Int) :
    m'.get k' = if k = k' then some v else m.get k' := by
  refine Option.ext fun w => ?_
  rw [get_iff_res m' h'.readInv, hres]
  by_cases e : k = k'
  · simp only [e, if_true, true_and, ne_eq, not_true_eq_false, false_and, or_false, Option.some.injEq]
    exact eq_comm
  · have e' : ¬ k' = k := fun h => e h.symm
    simp only [e, e', if_false, false_and, false_or, ne_eq, not_false_eq_true, true_and]
    exact (get_iff_res m h.readInv k' w).symm

theorem Inv.update {m : IM V} (h : Inv m) {i : Nat} {p : Pair V} (hp : m.pairs[i]? = some p) (hd : p.distance ≠ 0)
    (v : V) : Inv { m with pairs := m.pairs.set i { p with value := v } } :=
  ⟨core_set m.pairs h.core i _ hd
      (fun s q hs hq hqd e => hs (h.core.unique s i q p hq hp hqd hd e)) (h.core.nogap i p hp hd),
    h.total_eq.trans (Nat.add_right_cancel (countOcc_set m.pairs i { p with value := v } p hp)).symm,
    by rw [max_eq, List.length_set]; exact h.load, by unfold IM.size; rw [List.length_set]; exact h.room⟩

theorem mkTable_core [Inhabited V] (n total : Nat) (hn : 0 < n) : Core (mkTable (V := V) n total).pairs :=
  ((readInv_iff _).mp (new_inv n hn)).1

theorem mkTable_no_res [Inhabited V] (n total : Nat) (k : Int) (v : V) : ¬ Res (mkTable (V := V) n total).pairs k v :=
  fun ⟨_, _, hp, hd, _⟩ => hd (mkTable_empty hp)

theorem countOcc_mkTable [Inhabited V] (n total : Nat) : countOcc (mkTable (V := V) n total).pairs = 0 := by
  rw [countOcc_eq_countP, mkTable, List.countP_replicate]; rfl

theorem filter_len (pairs : List (Pair V)) : (pairs.filter occB).length = countOcc pairs := by
  rw [countOcc_eq_countP, List.countP_eq_length_filter]

theorem filter_pairwise (pairs : List (Pair V))
    (hu : ∀ (s t : Nat) (p q : Pair V), pairs[s]? = some p → pairs[t]? = some q → p.distance ≠ 0 → q.distance ≠ 0 →
      p.key = q.key → s = t) : (pairs.filter occB).Pairwise (fun p q => p.key ≠ q.key) := by
  rw [List.pairwise_filter, List.pairwise_iff_getElem]
  intro s t hs ht hst hp hq hk
  exact Nat.ne_of_lt hst (hu s t _ _ (List.getElem?_eq_getElem hs) (List.getElem?_eq_getElem ht)
    (of_decide_eq_true hp) (of_decide_eq_true hq) hk)

theorem res_iff_mem_filter (pairs : List (Pair V)) (k : Int) (v : V) :
    Res pairs k v ↔ ∃ p ∈ pairs.filter occB, k = p.key ∧ v = p.value := by
  constructor
  · rintro ⟨s, p, hp, hd, hk, hv⟩
    exact ⟨p, List.mem_filter.mpr ⟨List.mem_of_getElem? hp, decide_eq_true hd⟩, hk.symm, hv.symm⟩
  · rintro ⟨p, hm, hk, hv⟩
    obtain ⟨hm, hd⟩ := List.mem_filter.mp hm
    obtain ⟨s, hs⟩ := List.mem_iff_getElem?.mp hm
    exact ⟨s, p, hs, of_decide_eq_true hd, hk.symm, hv.symm⟩

def reinsert [Inhabited V] (acc : IM V) (p : Pair V) : Option (IM V) :=
  (insertRaw acc.pairs p.key p.value).map fun ps => { acc with pairs := ps }

theorem fold_insert [Inhabited V] (R : List (Pair V)) : ∀ (acc : IM V), Core acc.pairs →
    countOcc acc.pairs + R.length < acc.pairs.length → R.Pairwise (fun p q => p.key ≠ q.key) →
    (∀ p ∈ R, ∀ v, ¬ Res acc.pairs p.key v) →
    ∃ acc', R.foldlM reinsert acc = some acc' ∧ Core acc'.pairs ∧ acc'.pairs.length = acc.pairs.length ∧
      acc'.total = acc.total ∧ countOcc acc'.pairs = countOcc acc.pairs + R.length ∧
      ∀ k v, Res acc'.pairs k v ↔ (Res acc.pairs k v ∨ ∃ p ∈ R, k = p.key ∧ v = p.value) := by
  induction R with
  | nil =>
    intro acc hc _ _ _
    exact ⟨acc, rfl, hc, rfl, rfl, rfl, by simp⟩
  | cons p R ih =>
    intro acc hc hcount hnd hfresh
    have hri : ReadInv acc.pairs :=
      (readInv_iff _).mpr ⟨hc, emp_of_count _ (Nat.lt_of_le_of_lt (Nat.le_add_right ..) hcount)⟩
    obtain ⟨ps, hins, hpost⟩ := insertRaw_post acc.pairs hri p.key p.value
      (fun s q hq hqd e => hfresh p List.mem_cons_self q.value ⟨s, q, hq, hqd, e, rfl⟩)
    obtain ⟨acc', hfold, hc', hl', ht', hcnt', hres'⟩ := ih { acc with pairs := ps } hpost.core
      (by rw [hpost.len, hpost.count, Nat.add_right_comm]; exact hcount) (List.Pairwise.of_cons hnd)
      (by
        intro p' hp' v hr
        rcases (hpost.res _ _).mp hr with h | ⟨hk, _⟩
        · exact hfresh p' (List.mem_cons_of_mem _ hp') v h
        · exact List.rel_of_pairwise_cons hnd hp' hk.symm)
    refine ⟨acc', ?_, hc', hl'.trans hpost.len, ht', ?_, fun k v => ?_⟩
    · simp [List.foldlM_cons, reinsert, hins, hfold]
    · rw [hcnt', hpost.count, Nat.add_right_comm]; rfl
    · rw [hres', hpost.res]
      simp only [List.mem_cons, or_and_right, exists_or, exists_eq_left, or_assoc]

theorem resize_unfold [Inhabited V] (m : IM V) (size : Nat) :
    m.resize size =
      (if (if size < Gen.intMapMin then Gen.intMapMin else size) = m.size then some m
       else (m.pairs.filter occB).foldlM reinsert (mkTable (if size < Gen.intMapMin then Gen.intMapMin else size) m.total)) := rfl

theorem resize_post [Inhabited V] (m : IM V) (hc : Core m.pairs) (size : Nat)
    (hN : countOcc m.pairs < (if size < Gen.intMapMin then Gen.intMapMin else size)) :
    ∃ m', m.resize size = some m' ∧ Core m'.pairs ∧ m'.total = m.total ∧
      countOcc m'.pairs = countOcc m.pairs ∧
      m'.size = (if size < Gen.intMapMin then Gen.intMapMin else size) ∧
      ∀ k v, Res m'.pairs k v ↔ Res m.pairs k v := by
  rw [resize_unfold]
  generalize (if size < Gen.intMapMin then Gen.intMapMin else size) = N at hN ⊢
  by_cases heq : N = m.size
  · rw [if_pos heq]
    exact ⟨m, rfl, hc, rfl, rfl, heq.symm, fun _ _ => Iff.rfl⟩
  · rw [if_neg heq]
    have hlen : (mkTable (V := V) N m.total).pairs.length = N := List.length_replicate
    obtain ⟨acc', hfold, hc', hl', ht', hcnt', hres'⟩ := fold_insert (m.pairs.filter occB) (mkTable N m.total)
      (mkTable_core N m.total (Nat.zero_lt_of_lt hN))
      (by rw [hlen, filter_len, countOcc_mkTable, Nat.zero_add]; exact hN)
      (filter_pairwise m.pairs hc.unique) (fun p _ v => mkTable_no_res N m.total p.key v)
    refine ⟨acc', hfold, hc', ht', ?_, hl'.trans hlen, fun k v => ?_⟩
    · rw [hcnt', filter_len, countOcc_mkTable, Nat.zero_add]
    · rw [hres', res_iff_mem_filter m.pairs]
      exact or_iff_right (mkTable_no_res N m.total k v)

/-- what `Set` does after an insertion: the table is doubled when the load exceeds 3/4, and either
    way the table invariant holds again -/
theorem rebalance_post [Inhabited V] (m : IM V) (hc : Core m.pairs) (ht : m.total = countOcc m.pairs)
    (hr : 4 ≤ m.size) :
    ∃ m', (if m.total > m.max then m.resize (m.size * 2) else some m) = some m' ∧ Inv m' ∧
      ∀ k v, Res m'.pairs k v ↔ Res m.pairs k v := by
  by_cases hbig : m.total > m.max
  · rw [if_pos hbig]
    have hle := countOcc_le m.pairs
    have hpos := hc.size_pos
    have hN : m.pairs.length * 2 ≤ (if m.size * 2 < Gen.intMapMin then Gen.intMapMin else m.size * 2) := by
      split
      · exact Nat.le_of_lt ‹_›
      · exact Nat.le_refl _
    obtain ⟨m', hrs, hc', ht', hcnt', hsize', hres'⟩ := resize_post m hc (m.size * 2) (by omega)
    rw [← hsize'] at hN
    unfold IM.size at hr hN
    -- the new size is at least twice the old, which holds all residents: the load is under 3/4 again
    refine ⟨m', hrs, ⟨hc', by rw [ht', hcnt']; exact ht, by rw [max_eq, ht']; omega, by unfold IM.size; omega⟩,
      hres'⟩
  · rw [if_neg hbig]
    exact ⟨m, rfl, ⟨hc, ht, Nat.le_of_not_lt hbig, hr⟩, fun _ _ => Iff.rfl⟩

/-- **set_post.** `Set` preserves the table invariant, and afterwards the residents are the old
    ones with `k ↦ v` added or overwritten — across the displacement walk and across a resize. -/
theorem set_post [Inhabited V] (m : IM V) (h : Inv m) (k : Int) (v : V) :
    ∃ m', m.set k v = some m' ∧ Inv m' ∧
      ∀ k' w, Res m'.pairs k' w ↔ ((k' = k ∧ w = v) ∨ (k' ≠ k ∧ Res m.pairs k' w)) := by
  have hri := h.readInv
  obtain ⟨r, hr⟩ := find_total m hri k
  unfold IM.set
  rw [hr]
  cases r with
  | found i =>
    obtain ⟨p, hp, hpd, rfl⟩ := probe_found_sound m.pairs k _ _ i hr
    simp only [hp]
    exact ⟨_, rfl, h.update hp hpd v, res_update m.pairs h.core i p hp hpd v⟩
  | empty e =>
    have hfresh : ∀ (s : Nat) (q : Pair V), m.pairs[s]? = some q → q.distance ≠ 0 → q.key ≠ k := by
      rintro s q hq hqd rfl
      cases hr.symm.trans (find_present m.pairs hri s q hq hqd)
    obtain ⟨ps, hins, hpost⟩ := insertRaw_post m.pairs hri k v hfresh
    simp only [hins]
    obtain ⟨m', hm', hinv', hres'⟩ := rebalance_post { pairs := ps, total := m.total + 1 } hpost.core
      (hpost.count.trans (congrArg (· + 1) h.total_eq.symm)).symm
      (Nat.le_trans h.room (Nat.le_of_eq hpost.len.symm))
    refine ⟨m', hm', hinv', fun k' w => ?_⟩
    rw [hres', hpost.res, or_comm]
    refine or_congr_right ⟨fun hr => ⟨fun e => ?_, hr⟩, And.right⟩
    obtain ⟨s, q, hq, hqd, hk, _⟩ := hr
    exact hfresh s q hq hqd (hk.trans e)

theorem newSize_ge (alloc : Nat) : ∀ (f s : Nat), s ≤ newSize alloc f s := by
  intro f
  induction f with
  | zero => intro s; exact Nat.le_refl s
  | succ f ih =>
    intro s
    rw [newSize]
    split
    · exact Nat.le_trans (Nat.le_mul_of_pos_right s Nat.two_pos) (ih (s * 2))
    · exact Nat.le_refl s

/-- a fresh table satisfies the invariant -/
theorem new_Inv [Inhabited V] (alloc : Nat) : Inv (new (V := V) alloc) := by
  have hge : 16 ≤ newSize alloc 64 Gen.intMapMin := newSize_ge alloc 64 Gen.intMapMin
  exact ⟨mkTable_core _ 0 (by omega), (countOcc_mkTable _ 0).symm, Nat.zero_le _,
    by unfold IM.size new mkTable; rw [List.length_replicate]; omega⟩

theorem get_new [Inhabited V] (alloc : Nat) (k : Int) : (new (V := V) alloc).get k = none :=
  get_absent _ (new_Inv alloc).readInv k fun _ _ hq hqd => absurd (mkTable_empty hq) hqd

theorem set_get [Inhabited V] {m m' : IM V} (h : Inv m) {k : Int} {v : V} (hs : m.set k v = some m') :
    Inv m' ∧ ∀ k', m'.get k' = if k = k' then some v else m.get k' := by
  obtain ⟨m'', hs', hinv, hres⟩ := set_post m h k v
  cases hs.symm.trans hs'
  exact ⟨hinv, get_of_res_update h hinv hres⟩

/-- **set_get_same / set_get_other.** After `Set k v`, `Get k` is `v` and every other key reads
    as before. -/
theorem set_get_same [Inhabited V] (m m' : IM V) (h : Inv m) (k : Int) (v : V) (hs : m.set k v = some m') :
    Inv m' ∧ m'.get k = some v :=
  ⟨(set_get h hs).1, by rw [(set_get h hs).2, if_pos rfl]⟩

theorem set_get_other [Inhabited V] (m m' : IM V) (h : Inv m) (k k' : Int) (v : V) (hs : m.set k v = some m')
    (hne : k' ≠ k) : m'.get k' = m.get k' := by
  rw [(set_get h hs).2, if_neg (Ne.symm hne)]

/-- the specification: an association list read with "last write wins" -/
def specGet (ops : List (Int × V)) (k : Int) : Option V := (ops.reverse.find? (·.1 = k)).map (·.2)

theorem specGet_cons (kv : Int × V) (ops : List (Int × V)) (k : Int) :
    specGet (kv :: ops) k = (specGet ops k).or (if kv.1 = k then some kv.2 else none) := by
  unfold specGet
  rw [List.reverse_cons, List.find?_append, Option.map_or, List.find?_singleton]
  by_cases e : kv.1 = k <;> simp [e]

theorem specGet_eq_none {ops : List (Int × V)} {k : Int} (h : ∀ v, (k, v) ∉ ops) : specGet ops k = none := by
  unfold specGet
  rw [Option.map_eq_none_iff, List.find?_eq_none]
  intro x hx hk
  exact h x.2 (by rw [← of_decide_eq_true hk]; exact List.mem_reverse.mp hx)

/-- any sequence of `Set`s succeeds, keeps the invariant, and afterwards every key reads the last
    value written to it, or what it read before if none was -/
theorem sets_spec [Inhabited V] (ops : List (Int × V)) : ∀ (m0 : IM V), Inv m0 →
    ∃ m, ops.foldlM (fun (m : IM V) kv => m.set kv.1 kv.2) m0 = some m ∧ Inv m ∧
      ∀ k, m.get k = (specGet ops k).or (m0.get k) := by
  induction ops with
  | nil => intro m0 h; exact ⟨m0, rfl, h, fun k => rfl⟩
  | cons kv ops ih =>
    intro m0 h
    obtain ⟨m1, hs, _⟩ := set_post m0 h kv.1 kv.2
    obtain ⟨m, hf, hinv, hget⟩ := ih m1 (set_get h hs).1
    refine ⟨m, by rw [List.foldlM_cons, hs]; exact hf, hinv, fun k => ?_⟩
    rw [hget, (set_get h hs).2, specGet_cons]
    cases specGet ops k with
    | some v => rfl
    | none => by_cases e : kv.1 = k <;> simp [e]

/-- **history_refines.** Starting from a fresh table, any sequence of `Set`s succeeds, keeps the
    invariant, and the table then answers every `Get` like the finite map with those writes. -/
theorem history_refines [Inhabited V] (alloc : Nat) (ops : List (Int × V)) :
    ∃ m, ops.foldlM (fun (m : IM V) kv => m.set kv.1 kv.2) (new alloc) = some m ∧ Inv m ∧
      ∀ k, m.get k = specGet ops k := by
  obtain ⟨m, hf, hinv, hget⟩ := sets_spec ops (new alloc) (new_Inv alloc)
  exact ⟨m, hf, hinv, fun k => by rw [hget, get_new, Option.or_none]⟩

/-! ### Assign: the store behind `x.f = v` (structT.SetIndex = Fields.Assign) -/

/-- **assign_post.** Under the invariant `Assign k f` never fails and keeps the invariant; a
    resident key's value becomes `f` of the old one, nothing else changes; a key that is not a
    field of the table is NOT created (the table is returned as it is). -/
theorem assign_post (m : IM V) (h : Inv m) (k : Int) (f : V → V) :
    ∃ m', m.assign k f = some m' ∧ Inv m' ∧ m'.size = m.size ∧ m'.total = m.total ∧
      m'.get k = (m.get k).map f ∧ ∀ k', k' ≠ k → m'.get k' = m.get k' := by
  obtain ⟨r, hr⟩ := find_total m h.readInv k
  unfold IM.assign
  rw [hr]
  cases r with
  | found i =>
    obtain ⟨p, hp, hpd, rfl⟩ := probe_found_sound m.pairs k _ _ i hr
    simp only [hp]
    have hinv' := h.update hp hpd (f p.value)
    have hget := get_of_res_update h hinv' (res_update m.pairs h.core i p hp hpd (f p.value))
    refine ⟨_, rfl, hinv', List.length_set .., rfl, ?_, fun k' hne => ?_⟩
    · rw [hget, if_pos rfl, get_present m h.readInv i p hp hpd]; rfl
    · rw [hget, if_neg (Ne.symm hne)]
  | empty e =>
    have habs : m.get k = none := by unfold IM.get; rw [hr]
    exact ⟨m, rfl, h, rfl, rfl, by rw [habs]; rfl, fun _ _ => rfl⟩

/-- `Assign` keeps the set of fields: a key reads as present afterwards iff it did before -/
theorem assign_keeps_fields (m m' : IM V) (h : Inv m) (k : Int) (f : V → V) (ha : m.assign k f = some m')
    (k' : Int) : (m'.get k').isSome = (m.get k').isSome := by
  obtain ⟨m'', ha', _, _, _, hk, ho⟩ := assign_post m h k f
  cases ha.symm.trans ha'
  by_cases e : k' = k
  · subst e; rw [hk]; cases m.get k' <;> rfl
  · rw [ho k' e]

/-! ### structs: a heap of instances that share a type object (Model/Struct.lean) -/

/-- heap invariant: every table satisfies the table invariant and every instance has exactly the
    fields of its type -/
structure HInv (hp : Heap V) : Prop where
  ty_f : Inv hp.ty.fields
  ty_m : Inv hp.ty.methods
  inst : ∀ (r : Nat) (m : IM V), hp.insts[r]? = some m → Inv m ∧ ∀ k, (m.get k).isSome = (hp.ty.fields.get k).isSome

theorem getIndex_field_iff {hp : Heap V} {r : Nat} {k : Int} {v : V} :
    hp.getIndex r k = .field v ↔ ∃ m, hp.insts[r]? = some m ∧ m.get k = some v := by
  unfold Heap.getIndex
  cases hp.insts[r]? with
  | none => simp
  | some m =>
    cases hg : m.get k with
    | some w => simp [hg]
    | none => cases hp.ty.methods.get k <;> simp [hg]

theorem alloc_inv (hp : Heap V) (h : HInv hp) : HInv hp.alloc.1 := by
  refine ⟨h.ty_f, h.ty_m, fun r m hm => ?_⟩
  rcases List.mem_append.mp (List.mem_of_getElem? hm) with hmem | hmem
  · obtain ⟨r', hr'⟩ := List.mem_iff_getElem?.mp hmem
    exact h.inst r' m hr'
  · cases List.mem_singleton.mp hmem
    exact ⟨h.ty_f, fun _ => rfl⟩

/-- a fresh instance reads the zero value of every field of its type -/
theorem alloc_zero (hp : Heap V) (k : Int) (z : V) (hz : hp.ty.fields.get k = some z) :
    hp.alloc.1.getIndex hp.alloc.2 k = .field z :=
  getIndex_field_iff.mpr ⟨_, List.getElem?_concat_length, hz⟩

/-- **field store/load.** After `x.k = v` on instance `r` (any conversion `conv`), through ANY
    variable that holds the same reference `r` (all aliases are the number `r`):
    field `k` reads the converted value, every other field of `r` reads as before, and every
    other instance reads as before; the store never fails and keeps the heap invariant. -/
theorem setIndex_spec (hp : Heap V) (h : HInv hp) (r : Nat) (k : Int) (conv : V → V → V) (v : V)
    (hr : r < hp.insts.length) :
    ∃ hp', hp.setIndex r k conv v = some hp' ∧ HInv hp' ∧ hp'.ty = hp.ty ∧ hp'.insts.length = hp.insts.length ∧
      (∀ old, hp.getIndex r k = .field old → hp'.getIndex r k = .field (conv old v)) ∧
      (∀ k', k' ≠ k → hp'.getIndex r k' = hp.getIndex r k') ∧
      (∀ r' k', r' ≠ r → hp'.getIndex r' k' = hp.getIndex r' k') := by
  obtain ⟨m, hm⟩ : ∃ m, hp.insts[r]? = some m := ⟨hp.insts[r], List.getElem?_eq_getElem hr⟩
  obtain ⟨hminv, hmf⟩ := h.inst r m hm
  obtain ⟨m', ha, hinv', _, _, hk, ho⟩ := assign_post m hminv k (fun old => conv old v)
  have hself : (hp.insts.set r m')[r]? = some m' := List.getElem?_set_self hr
  refine ⟨{ hp with insts := hp.insts.set r m' }, by simp [Heap.setIndex, hm, ha], ⟨h.ty_f, h.ty_m, ?_⟩, rfl,
    List.length_set .., ?_, ?_, ?_⟩
  · intro r' x hx
    rcases getElem?_set_some hx with ⟨_, rfl⟩ | ⟨_, hx'⟩
    · exact ⟨hinv', fun k' => (assign_keeps_fields m x hminv k _ ha k').trans (hmf k')⟩
    · exact h.inst r' x hx'
  · intro old hold
    obtain ⟨m0, hm0, hg⟩ := getIndex_field_iff.mp hold
    cases hm.symm.trans hm0
    exact getIndex_field_iff.mpr ⟨m', hself, by rw [hk, hg]; rfl⟩
  · intro k' hne
    simp only [Heap.getIndex, hm, hself, ho k' hne]
  · intro r' k' hne
    simp only [Heap.getIndex, List.getElem?_set_ne (Ne.symm hne)]

/-- **methods are found on every instance**, also a method defined after the instance was made:
    a key that is not a field resolves, on every live instance, to the method stored last under
    that index, bound to that very instance. -/
theorem method_on_every_instance [Inhabited V] (hp : Heap V) (h : HInv hp) (k : Int) (fn : V)
    (hnf : hp.ty.fields.get k = none) :
    ∃ hp', hp.addMethod k fn = some hp' ∧ HInv hp' ∧ hp'.insts = hp.insts ∧
      ∀ r, r < hp.insts.length → hp'.getIndex r k = .method r fn := by
  obtain ⟨ms, hs, _⟩ := set_post hp.ty.methods h.ty_m k fn
  obtain ⟨hinv, hget⟩ := set_get_same _ ms h.ty_m k fn hs
  refine ⟨{ hp with ty := { hp.ty with methods := ms } }, by simp [Heap.addMethod, hs], ⟨h.ty_f, hinv, h.inst⟩, rfl, ?_⟩
  intro r hr
  obtain ⟨m, hm⟩ : ∃ m, hp.insts[r]? = some m := ⟨hp.insts[r], List.getElem?_eq_getElem hr⟩
  have hnone : m.get k = none := by simpa [hnf] using (h.inst r m hm).2 k
  simp only [Heap.getIndex, hm, hnone, hget]

/-- field stores never disturb method lookup and adding a method never disturbs a field -/
theorem addMethod_keeps_fields [Inhabited V] (hp hp' : Heap V) (k : Int) (fn : V) (ha : hp.addMethod k fn = some hp')
    (r : Nat) (k' : Int) (v : V) (hf : hp.getIndex r k' = .field v) : hp'.getIndex r k' = .field v := by
  obtain ⟨ms, _, rfl⟩ := Option.map_eq_some_iff.mp ha
  have := getIndex_field_iff.mp hf
  exact getIndex_field_iff.mpr this

/-- non-vacuity: a type with fields 3 and 19 (same home slot in a 16-slot table), two instances -/
def demoHeap : Heap Nat :=
  let f0 : IM Nat := new 2
  let f := ((f0.set 3 0).bind (·.set 19 0)).getD f0
  { ty := { fields := f, methods := new 0 }, insts := [f, f] }

example : (demoHeap.setIndex 0 19 (fun _ v => v) 7).map (fun hp => (hp.getIndex 0 19, hp.getIndex 0 3, hp.getIndex 1 19)
    matches (.field 7, .field 0, .field 0)) = some true := by decide

/-- the value a literal leaves in field `k` that starts at `z`: the conversions of the values given
    for `k`, applied in order -/
def litValue (conv : V → V → V) (k : Int) (z : V) (inits : List (Int × V)) : V :=
  inits.foldl (fun acc kv => if kv.1 = k then conv acc kv.2 else acc) z

theorem setAll_spec (conv : V → V → V) (r : Nat) (inits : List (Int × V)) : ∀ (hp : Heap V), HInv hp → r < hp.insts.length →
    ∃ hp', inits.foldlM (fun (h : Heap V) kv => h.setIndex r kv.1 conv kv.2) hp = some hp' ∧ HInv hp' ∧
      hp'.ty = hp.ty ∧ hp'.insts.length = hp.insts.length ∧
      (∀ k z, hp.getIndex r k = .field z → hp'.getIndex r k = .field (litValue conv k z inits)) ∧
      (∀ r' k, r' ≠ r → hp'.getIndex r' k = hp.getIndex r' k) := by
  induction inits with
  | nil => intro hp h _; exact ⟨hp, rfl, h, rfl, rfl, fun k z hz => hz, fun _ _ _ => rfl⟩
  | cons kv rest ih =>
    intro hp h hr
    obtain ⟨hp1, hs, hinv1, hty1, hlen1, hsame, hother, hinst⟩ := setIndex_spec hp h r kv.1 conv kv.2 hr
    obtain ⟨hp2, hf, hinv2, hty2, hlen2, hfield2, hinst2⟩ := ih hp1 hinv1 (by rw [hlen1]; exact hr)
    refine ⟨hp2, ?_, hinv2, by rw [hty2, hty1], by rw [hlen2, hlen1], ?_, ?_⟩
    · rw [List.foldlM_cons, hs]; exact hf
    · intro k z hz
      rw [litValue, List.foldl_cons]
      by_cases e : kv.1 = k
      · rw [if_pos e]
        exact hfield2 k _ (e ▸ hsame z (e ▸ hz))
      · rw [if_neg e]
        exact hfield2 k z (by rw [hother k (Ne.symm e)]; exact hz)
    · intro r' k hne
      rw [hinst2 r' k hne, hinst r' k hne]

/-- **allocWith_spec.** A struct literal `&T{k1: v1, …}` makes a NEW instance (a reference no variable
    holds yet) with exactly the fields of `T`: a field the literal names holds the converted value,
    every other field its zero value; no existing instance changes. -/
theorem allocWith_spec (hp : Heap V) (h : HInv hp) (conv : V → V → V) (inits : List (Int × V)) :
    ∃ hp', hp.allocWith conv inits = some (hp', hp.insts.length) ∧ HInv hp' ∧
      hp'.insts.length = hp.insts.length + 1 ∧
      (∀ k z, hp.ty.fields.get k = some z → hp'.getIndex hp.insts.length k = .field (litValue conv k z inits)) ∧
      (∀ r' k, r' < hp.insts.length → hp'.getIndex r' k = hp.getIndex r' k) := by
  have hr : hp.alloc.2 < hp.alloc.1.insts.length := by simp [Heap.alloc]
  obtain ⟨hp', hf, hinv', _, hlen, hfield, hother⟩ := setAll_spec conv hp.alloc.2 inits hp.alloc.1 (alloc_inv hp h) hr
  refine ⟨hp', by unfold Heap.allocWith; rw [hf]; rfl, hinv', by rw [hlen]; simp [Heap.alloc], ?_, ?_⟩
  · intro k z hz
    exact hfield k z (alloc_zero hp k z hz)
  · intro r' k hlt
    rw [hother r' k (Nat.ne_of_lt hlt)]
    simp only [Heap.getIndex, Heap.alloc]
    rw [List.getElem?_append_left hlt]

/-! ### the type object: declaration and re-declaration (STRUCT, GLOBALSTRUCT → syncFields → addField) -/

theorem orderAfter_cons (o : List Int) (x : Int) (xs : List Int) :
    orderAfter o (x :: xs) = orderAfter (if x ∈ o then o else o ++ [x]) xs := rfl

theorem mem_orderAfter (ks : List Int) : ∀ (o : List Int) (k : Int), k ∈ orderAfter o ks ↔ k ∈ o ∨ k ∈ ks := by
  induction ks with
  | nil => intro o k; simp [orderAfter]
  | cons x xs ih =>
    intro o k
    rw [orderAfter_cons, ih, List.mem_cons, ← or_assoc]
    refine or_congr_left ?_
    split
    · exact (or_iff_left_of_imp fun e => e ▸ ‹x ∈ o›).symm
    · rw [List.mem_append, List.mem_singleton]

/-- the old names keep their places: `Order` only grows at the end -/
theorem orderAfter_prefix (ks : List Int) : ∀ (o : List Int), ∃ suffix, orderAfter o ks = o ++ suffix := by
  induction ks with
  | nil => intro o; exact ⟨[], (List.append_nil o).symm⟩
  | cons x xs ih =>
    intro o
    obtain ⟨s, hs⟩ := ih (if x ∈ o then o else o ++ [x])
    rw [orderAfter_cons, hs]
    split
    · exact ⟨s, rfl⟩
    · exact ⟨[x] ++ s, List.append_assoc ..⟩

/-- adding fields one by one is a sequence of `Set`s on the field table, and `orderAfter` on `Order` -/
theorem addAll_eq [Inhabited V] (kvs : List (Int × V)) : ∀ (t : TObj V), t.addAll kvs =
    (kvs.foldlM (fun (m : IM V) kv => m.set kv.1 kv.2) t.fields).map fun f =>
      { order := orderAfter t.order (kvs.map (·.1)), fields := f } := by
  induction kvs with
  | nil => intro t; rfl
  | cons kv rest ih =>
    intro t
    unfold TObj.addAll
    rw [List.foldlM_cons, List.foldlM_cons, TObj.addField]
    cases t.fields.set kv.1 kv.2 with
    | none => rfl
    | some f => exact ih _

/-- **addAll_spec.** Adding fields one by one never fails, keeps the table invariant; `Order` grows
    by the new names in order of first appearance; every name reads the LAST value given for it,
    a name that is not among them reads as before. -/
theorem addAll_spec [Inhabited V] (kvs : List (Int × V)) : ∀ (t : TObj V), Inv t.fields →
    ∃ t', t.addAll kvs = some t' ∧ Inv t'.fields ∧ t'.order = orderAfter t.order (kvs.map (·.1)) ∧
      ∀ k, t'.fields.get k = match specGet kvs k with | some v => some v | none => t.fields.get k := by
  intro t h
  obtain ⟨f, hf, hinv, hget⟩ := sets_spec kvs t.fields h
  refine ⟨_, by rw [addAll_eq, hf]; rfl, hinv, rfl, fun k => ?_⟩
  rw [hget]
  cases specGet kvs k <;> rfl

/-- **sync_spec.** Declaring a type name again merges the new declaration into the old type object -/
theorem sync_spec [Inhabited V] (prev cur : TObj V) (hp : Inv prev.fields) :
    ∃ t', prev.sync cur = some t' ∧ Inv t'.fields ∧
      t'.order = orderAfter prev.order (cur.entries.map (·.1)) ∧
      ∀ k, t'.fields.get k = match specGet cur.entries k with | some v => some v | none => prev.fields.get k :=
  addAll_spec cur.entries prev hp

/-- the open finding `shadowed-local-type-keeps-outer-fields`, part 1: a field of the old declaration
    that the new declaration does not name is still a field, at its old place, with its old value -/
theorem sync_keeps_dropped_field [Inhabited V] (prev cur t' : TObj V) (hp : Inv prev.fields)
    (hs : prev.sync cur = some t') (k : Int) (hk : k ∈ prev.order) (hn : ∀ v, (k, v) ∉ cur.entries) :
    k ∈ t'.order ∧ t'.fields.get k = prev.fields.get k := by
  obtain ⟨t'', hs', _, hord, hget⟩ := sync_spec prev cur hp
  cases hs.symm.trans hs'
  refine ⟨by rw [hord, mem_orderAfter]; exact Or.inl hk, ?_⟩
  rw [hget k, specGet_eq_none hn]

/-- part 2 (and the legitimate retyping): a field the new declaration names takes the new zero value
    — in the ONE type object both declarations share -/
theorem sync_takes_new_value [Inhabited V] (prev cur t' : TObj V) (hp : Inv prev.fields)
    (hs : prev.sync cur = some t') (k : Int) (v : V) (hk : specGet cur.entries k = some v) :
    t'.fields.get k = some v := by
  obtain ⟨t'', hs', _, _, hget⟩ := sync_spec prev cur hp
  cases hs.symm.trans hs'
  rw [hget k, hk]

theorem declare_spec [Inhabited V] (decl : List (Int × V)) :
    ∃ t, TObj.declare decl = some t ∧ Inv t.fields ∧ t.order = orderAfter [] (decl.map (·.1)) ∧
      ∀ k, t.fields.get k = specGet decl k := by
  obtain ⟨t, h1, h2, h3, h4⟩ := addAll_spec decl ({ order := [], fields := Goat.IntMap.new decl.length } : TObj V) (new_Inv _)
  refine ⟨t, h1, h2, h3, fun k => ?_⟩
  rw [h4 k, get_new]
  cases specGet decl k <;> rfl

/-- the regenerated tie: `syncFields`, `addField` and the GLOBALSTRUCT handler still have the shape
    `TObj.sync` / `TObj.addField` model (goatx) -/
theorem type_object_tie : Gen.typeRedeclarationMerges = true := by decide

end Goat.Props.C12

#print axioms Goat.Props.C12.find_present
#print axioms Goat.Props.C12.find_total
#print axioms Goat.Props.C12.find_absent
#print axioms Goat.Props.C12.get_present
#print axioms Goat.Props.C12.get_absent
#print axioms Goat.Props.C12.new_inv
#print axioms Goat.Props.C12.insertLoop_post
#print axioms Goat.Props.C12.insertRaw_post
#print axioms Goat.Props.C12.resize_post
#print axioms Goat.Props.C12.set_post
#print axioms Goat.Props.C12.new_Inv
#print axioms Goat.Props.C12.set_get_same
#print axioms Goat.Props.C12.set_get_other
#print axioms Goat.Props.C12.history_refines
#print axioms Goat.Props.C12.assign_post
#print axioms Goat.Props.C12.assign_keeps_fields
#print axioms Goat.Props.C12.alloc_inv
#print axioms Goat.Props.C12.alloc_zero
#print axioms Goat.Props.C12.setIndex_spec
#print axioms Goat.Props.C12.method_on_every_instance
#print axioms Goat.Props.C12.addMethod_keeps_fields
#print axioms Goat.Props.C12.mem_orderAfter
#print axioms Goat.Props.C12.orderAfter_prefix
#print axioms Goat.Props.C12.addAll_spec
#print axioms Goat.Props.C12.sync_spec
#print axioms Goat.Props.C12.sync_keeps_dropped_field
#print axioms Goat.Props.C12.sync_takes_new_value
#print axioms Goat.Props.C12.declare_spec
#print axioms Goat.Props.C12.type_object_tie
#print axioms Goat.Props.C12.setAll_spec
#print axioms Goat.Props.C12.allocWith_spec
