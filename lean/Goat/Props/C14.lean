import Goat.Model.Print
/-!
# C14 — printed values look as Go prints them, and printing always terminates

* `safeV_eq_go` / `str_eq_go` — a well-typed value whose type cannot reach a struct reference
  (scalars, and slices / single-entry maps of such values, nested to **any** depth) is rendered
  exactly as the `%v` specification `goFmt` renders it: the cycle cut never fires on it.
* `println_format` — operands are separated by exactly one space and followed by a newline.
* `struct_fields_in_order` — a struct reference renders as `&{F1:v1 F2:v2 …}` in declaration order.
* `cut_unsafe_slice`, `cut_unsafe_struct` — what the cycle cut prints.
* termination: `str`, `safe`, `safeV` are total functions of an arbitrary heap (accepted by
  Lean's structural termination checker without fuel); the examples render self-referential
  and mutually referential object graphs.
-/
namespace Goat.Props.C14
open Goat.Print

theorem WT_slice {ty : Ty} {es : Vals} (hw : WT (.slice ty es) = true) (hs : ty.safe = true) :
    ∃ e, ty = .slice e ∧ WTs e es = true ∧ e.safe = true := by
  cases ty with
  | slice e => exact ⟨e, rfl, by simpa only [WT] using hw, hs⟩
  | _ => cases hw

theorem WT_map1 {ty : Ty} {k : Scalar} {v : Val} (hw : WT (.map1 ty k v) = true) (hs : ty.safe = true) :
    WT v = true ∧ v.ty.safe = true := by
  cases ty with
  | map =>
    simp only [WT, Bool.and_eq_true, beq_iff_eq] at hw
    exact ⟨hw.2, hw.1 ▸ hs⟩
  | _ => cases hw

theorem WTs_cons {e : Ty} {v : Val} {vs : Vals} (hw : WTs e (.cons v vs) = true) (hs : e.safe = true) :
    WT v = true ∧ v.ty.safe = true ∧ WTs e vs = true := by
  simp only [WTs, Bool.and_eq_true, beq_iff_eq] at hw
  exact ⟨hw.1.2, hw.1.1 ▸ hs, hw.2⟩

mutual
theorem safeV_eq_go : ∀ (v : Val), WT v = true → v.ty.safe = true → safeV v = goFmt v
  | .scalar _, _, _ | .map0 _, _, _ => rfl
  | .slice ty es, hw, hs => by
    obtain ⟨e, rfl, hw', hs'⟩ := WT_slice hw hs
    have ⟨h1, h2⟩ := safeVs_eq_go e es hw' hs'
    rw [safeV, h1, h2]; rfl
  | .map1 ty k v, hw, hs => by
    have ⟨hw', hv⟩ := WT_map1 hw hs
    rw [safeV, hv, safeV_eq_go v hw' hv]; rfl
  | .ref _, _, hs | .nilRef, _, hs => nomatch hs
theorem safeVs_eq_go : ∀ (e : Ty) (es : Vals), WTs e es = true → e.safe = true →
    anyUnsafe es = false ∧ safeVs es = goFmts es
  | _, .nil, _, _ => ⟨rfl, rfl⟩
  | e, .cons v vs, hw, hs => by
    have ⟨hw', hv, hws⟩ := WTs_cons hw hs
    have ⟨h1, h2⟩ := safeVs_eq_go e vs hws hs
    rw [anyUnsafe, safeVs, hv, h1, h2, safeV_eq_go v hw' hv]; exact ⟨rfl, rfl⟩
end

theorem safe_eq_safeV (h : Heap) (v : Val) (hs : v.ty.safe = true) : safe h v = safeV v := by
  cases v with
  | ref => cases hs
  | _ => rfl

theorem safes_eq_safeVs (h : Heap) : ∀ es : Vals, anyUnsafe es = false → safes h es = safeVs es
  | .nil, _ => rfl
  | .cons v vs, hu => by
    simp only [anyUnsafe, Bool.or_eq_false_iff, Bool.not_eq_false'] at hu
    rw [safes, safeVs, safe_eq_safeV h v hu.1, safes_eq_safeVs h vs hu.2]

/-- **str_eq_go.** `Value.String()` of any well-typed value built from scalars, slices and
    single-entry maps — nested to any depth, on any heap — is Go's `%v` rendering. -/
theorem str_eq_go (h : Heap) (v : Val) (hw : WT v = true) (hs : v.ty.safe = true) : str h v = goFmt v := by
  cases v with
  | scalar _ | map0 _ => rfl
  | slice ty es =>
    obtain ⟨e, rfl, hw', hs'⟩ := WT_slice hw hs
    have ⟨h1, h2⟩ := safeVs_eq_go e es hw' hs'
    rw [str, goFmt, safes_eq_safeVs h es h1, h2]
  | map1 ty k v =>
    have ⟨hw', hv⟩ := WT_map1 hw hs
    rw [str, goFmt, safe_eq_safeV h v hv, safeV_eq_go v hw' hv]
  | ref _ | nilRef => cases hs

theorem println_format (h : Heap) (vs : List Val) :
    println h vs = " ".intercalate (vs.map (str h)) ++ "\n" := rfl

theorem struct_fields_in_order (h : Heap) (a : Nat) (fields : Obj) (ha : h[a]? = some fields) :
    str h (.ref a) = "&{" ++ " ".intercalate (fields.map fun f => f.1 ++ ":" ++ safe h f.2) ++ "}" := by
  simp [str, ha, join]

/-- the cycle cut: a nested object with a field that could lead to another object prints `&{...}` -/
theorem cut_unsafe_struct (h : Heap) (a : Nat) (fields : Obj) (ha : h[a]? = some fields)
    (hu : fields.any (fun f => !f.2.ty.safe) = true) : safe h (.ref a) = "&{...}" := by
  simp only [safe, ha, hu, if_true]

theorem cut_unsafe_slice (ty : Ty) (es : Vals) (hu : anyUnsafe es = true) : safeV (.slice ty es) = "[...]" := by
  simp [safeV, hu]

/-! ### self-containing containers: rendering terminates on every container heap -/

theorem mapM_some_of_forall {α β : Type} (f : α → Option β) (l : List α) (h : ∀ x ∈ l, (f x).isSome) :
    (l.mapM f).isSome := by
  induction l with
  | nil => rfl
  | cons x xs ih =>
    obtain ⟨b, hb⟩ := Option.isSome_iff_exists.mp (h x List.mem_cons_self)
    obtain ⟨bs, hbs⟩ := Option.isSome_iff_exists.mp (ih fun y hy => h y (List.mem_cons_of_mem _ hy))
    rw [List.mapM_cons, hb, hbs]; rfl

/-- **cyc_total.** On any container heap — cyclic or not — rendering with the path cut never runs
    out of fuel as soon as the fuel exceeds the number of containers not yet on the path: the
    recursion is bounded by the heap, not by the data's (infinite) unfolding. -/
theorem cyc_total (h : CHeap) : ∀ (fuel : Nat) (path : List Nat) (v : CVal),
    path.Nodup → (∀ a ∈ path, a < h.length) → h.length < fuel + path.length →
    (renderC h fuel path v).isSome := by
  intro fuel path v hnd hin hf
  induction fuel generalizing path v with
  | zero =>
    -- pigeonhole: a duplicate-free path of addresses below `h.length` is no longer than the heap
    have := hnd.length_le_of_subset fun a ha => List.mem_range.mpr (hin a ha)
    rw [List.length_range] at this
    omega
  | succ fuel ih =>
    cases v with
    | int => rfl
    | cref a =>
      rw [renderC]
      split
      · rfl
      next hp =>
        split
        · rfl
        next elems ha =>
          rw [Option.isSome_map]
          exact mapM_some_of_forall _ _ fun x _ => ih (a :: path) x (List.nodup_cons.mpr ⟨hp, hnd⟩)
            (List.forall_mem_cons.mpr ⟨(List.getElem?_eq_some_iff.mp ha).1, hin⟩)
            (by rw [List.length_cons]; omega)

/-- top level: fuel `heap size + 1` always suffices -/
theorem cyc_render_total (h : CHeap) (v : CVal) : (renderC h (h.length + 1) [] v).isSome :=
  cyc_total h _ [] v List.nodup_nil nofun (Nat.lt_succ_self _)

/-- a slice whose first element is the slice itself, and two slices containing each other -/
example : renderC [[.cref 0, .int 2]] 2 [] (.cref 0) = some "[[...] 2]" := by decide
example : renderC [[.cref 1, .int 1], [.cref 0, .cref 1]] 3 [] (.cref 0) = some "[[[...] [...]] 1]" := by decide +kernel

/-! ### non-vacuity: deep nesting, and cyclic object graphs on which rendering still terminates -/

def i (n : Int) : Val := .scalar (.int n)
def L (t : Ty) (l : List Val) : Val := .slice (.slice t) (l.foldr Vals.cons Vals.nil)

/-- `[][][]int{{{1, 2}, {3}}, {{4}}}` -/
def deep : Val :=
  L (.slice (.slice .scalar)) [L (.slice .scalar) [L .scalar [i 1, i 2], L .scalar [i 3]], L (.slice .scalar) [L .scalar [i 4]]]

example : WT deep = true ∧ deep.ty.safe = true := by decide
example : str [] deep = "[[[1 2] [3]] [[4]]]" := by decide +kernel

/-- `t := &T{A: 1}; t.F = t` — a self-loop -/
def selfLoop : Heap := [[("A", i 1), ("F", .ref 0)]]
example : str selfLoop (.ref 0) = "&{A:1 F:&{...}}" := by decide

/-- two objects pointing at each other, one also holding a slice of both -/
def twoCycle : Heap :=
  [[("N", i 0), ("P", .ref 1)], [("N", i 1), ("P", .ref 0), ("Q", .slice (.slice .struct) (.cons (.ref 0) (.cons (.ref 1) .nil)))]]
example : str twoCycle (.ref 1) = "&{N:1 P:&{...} Q:[...]}" := by decide +kernel
example : str twoCycle (.slice (.slice .struct) (.cons (.ref 0) (.cons .nilRef .nil))) = "[&{...} nil]" := by decide

/-- a nested object with only scalar and scalar-container fields prints in full -/
def leaf : Heap := [[("A", i 7), ("L", L .scalar [i 1, i 2])], [("In", .ref 0)]]
example : str leaf (.ref 1) = "&{In:&{A:7 L:[1 2]}}" := by decide +kernel

example : fmtFloat (.fin false [1] 21) = "1e+21" ∧ fmtFloat (.fin false [1] 6) = "1e+06" ∧ fmtFloat (.fin false [1] 5) = "100000"
    ∧ fmtFloat (.fin false [1, 2] 100) = "1.2e+100"
    ∧ fmtFloat (.fin false [1] (-5)) = "1e-05" ∧ fmtFloat (.fin false [1] (-4)) = "0.0001"
    ∧ fmtFloat (.fin true [0] 0) = "-0" ∧ fmtFloat (.fin false [1, 5] 0) = "1.5"
    ∧ fmtFloat (.fin false [1, 2, 3, 4, 5] 2) = "123.45" := by decide +kernel

end Goat.Props.C14

#print axioms Goat.Props.C14.safeV_eq_go
#print axioms Goat.Props.C14.str_eq_go
#print axioms Goat.Props.C14.println_format
#print axioms Goat.Props.C14.struct_fields_in_order
#print axioms Goat.Props.C14.cut_unsafe_struct
#print axioms Goat.Props.C14.cut_unsafe_slice
#print axioms Goat.Props.C14.cyc_total
#print axioms Goat.Props.C14.cyc_render_total
