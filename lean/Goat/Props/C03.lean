import Goat.Model.Contain
import Goat.Gen.Tables
/-!
# C03 — no input can take the embedding host down   (PARTIAL: see below)

What a theorem can carry here:

* `btErr_total` — the error builder that runs inside the recovery handlers indexes its frame and
  backtrace in range for **every** program counter, code length and backtrace depth (also `N =
  len(Codes)` after a body ran off its end, also an empty frame): the handler cannot panic on its
  own bookkeeping.
* `containment_structure` — facts regenerated from /repo's source by goatx on every run, decided
  by the kernel against the expectations written here: the four functions that run
  script-controlled or input-controlled code (`parse`, `compiler.run`, `VM.run`, `VM.Func`) each
  install a deferred `recover`; the recovery handlers of `VM.run` / `VM.Func` call nothing but
  `btErr`; `Eval` and `Load` wrap every error in one of the stage prefixes and never return a bare
  `err`; and the set of functions each entry point and each loader / tokenizer stage calls
  *outside* any recover is exactly the reviewed list below. Any change to that structure breaks
  this theorem and sends the check into its search for an escaping panic.
* termination of the stages is carried by other properties' theorems: the loader's dependency
  walk ends in an order or a cycle error (C15 `cycle_is_error`, `order_ok_iff_acyclic`), the
  peephole pass is a total function (C02, `doOpt` accepted by Lean's termination checker), the
  compiler of control flow is structurally recursive (C06), the Pratt loop consumes a token per
  step (C05's fuelled model; `parseTop` runs it with fuel `2 * tokens + 2`).

What it cannot: that the *bodies* running outside a recover (the reviewed list: glue in `Eval` /
`Load`, the tokenizer, the loader, the dumps) contain no panicking operation for any input is a
fact about Go's run time, not expressible in the model. That part is searched, not proved: byte
strings, token soups, mutated corpus programs, random file trees and option subsets through every
entry point with a `recover()` in the harness.
-/
namespace Goat.Props.C03
open Goat.Contain

theorem btErr_total (n codes bt : Nat) : (btErrPick n codes bt).inRange codes bt := by
  unfold btErrPick
  split
  · assumption
  · split
    · simp only [Pick.inRange]; omega
    · split
      · simp only [Pick.inRange]; omega
      · trivial

theorem btErrWalk_inRange (bt : Nat) : ∀ i ∈ btErrWalk bt, i < bt := by
  intro i hi
  simpa [btErrWalk] using hi

/-- the expectation: name, has a deferred recover, calls made outside it, stage prefixes, bare
    `return err` count. (Methods of the package appear as `.Name`: receivers are not resolved. The lists are
    compared as lists: `unprot` in goatx's sorted order, `stages` in source order.) -/
def expected : List Gen.FnFact := [
  { name := "VM.Eval", recovers := false,
    unprot := [".codeDump", ".run", ".treeDump", "compilePkgs", "loadImports", "newLookup", "parse", "tokenize"],
    stages := ["tokenize", "parse", "loadImports", "compile (imports)", "run (imports)", "compile", "run"], bareErr := 0 },
  { name := "VM.Load", recovers := false,
    unprot := [".codeDump", ".run", ".treeDump", "compilePkgs"],
    stages := ["load", "compile", "run", "run"], bareErr := 0 },   -- the second "run": values left by top-level code
  { name := "VM.Call", recovers := false, unprot := [".Func", ".Peek"], stages := [], bareErr := 0 },   -- (Peek: a map read)
  { name := "VM.Func", recovers := true, unprot := [".btErr"], stages := [], bareErr := 0 },
  { name := "VM.run", recovers := true, unprot := [".btErr"], stages := [], bareErr := 0 },
  { name := "VM.btErr", recovers := false, unprot := [".String"], stages := [], bareErr := 0 },
  { name := "VM.codeDump", recovers := false, unprot := [".String"], stages := [], bareErr := 0 },
  { name := "VM.treeDump", recovers := false, unprot := [".String", ".Write", "writeTree"], stages := [], bareErr := 0 },
  { name := "writeTree", recovers := false, unprot := ["writeTree"], stages := [], bareErr := 0 },   -- (depth-bounded recursion)
  { name := "parse", recovers := true, unprot := [], stages := [], bareErr := 0 },
  { name := "compiler.run", recovers := true, unprot := [], stages := [], bareErr := 0 },
  { name := "compilePkgs", recovers := false, unprot := [".run", "declareFuncs", "newLookup"], stages := [], bareErr := 1 },
  { name := "declareFuncs", recovers := false, unprot := [".Index"], stages := [], bareErr := 0 },   -- (a loop over the package's declarations)
  -- compares two host objects; its recover guards that one comparison and nothing else (no call inside it)
  { name := "sameObject", recovers := true, unprot := [], stages := [], bareErr := 0 },
  -- (tokenize calls text/scanner's Peek; since lookup.Peek exists the spelling counts - receivers are not resolved)
  { name := "tokenize", recovers := false, unprot := [".Peek"], stages := [], bareErr := 1 },
  { name := "treeSort", recovers := false, unprot := [], stages := [], bareErr := 0 },
  { name := "joinFiles", recovers := false, unprot := ["symAtPos"], stages := [], bareErr := 0 },
  { name := "loadFile", recovers := false, unprot := ["loadImports", "rawLoadFile", "treeSort"], stages := ["loadFile"], bareErr := 0 },
  { name := "loadPackage", recovers := false, unprot := ["loadImports", "rawLoadPackage", "treeSort"], stages := ["loadPackage"], bareErr := 0 },
  { name := "loadImports", recovers := false,
    unprot := [".Append", "rawLoadPackage", "treeSort"], stages := ["loadPackage"], bareErr := 0 },
  { name := "rawLoadFile", recovers := false, unprot := ["checkConstraint", "parse", "tokenize"],
    stages := ["ReadFile", "constraint", "tokenize", "parse"], bareErr := 0 },
  { name := "rawLoadPackage", recovers := false, unprot := [".Append", "joinFiles", "rawLoadFile", "symAtPos"],
    stages := ["Glob", "loadFile"], bareErr := 0 },
  { name := "checkConstraint", recovers := false, unprot := [".Eval"], stages := [], bareErr := 1 }
]

/-- **containment_structure.** Every expected fact is what goatx extracted from the current
    source, and nothing else is extracted under those names. -/
theorem containment_structure :
    expected.all (fun e => (Gen.funcs.filter (·.name == e.name)) == [e]) = true := by decide +kernel

theorem filter_expected {e : Gen.FnFact} (he : e ∈ expected) :
    Gen.funcs.filter (·.name == e.name) = [e] :=
  eq_of_beq (List.all_eq_true.mp containment_structure e he)

/-- a function of the package that bears the name of an expectation is that expectation -/
theorem mem_expected {f : Gen.FnFact} (hf : f ∈ Gen.funcs) (hn : f.name ∈ expected.map (·.name)) :
    f ∈ expected := by
  obtain ⟨e, he, hfe⟩ := List.mem_map.mp hn
  have : f ∈ [e] := filter_expected he ▸ List.mem_filter.mpr ⟨hf, beq_iff_eq.mpr hfe.symm⟩
  exact List.mem_singleton.mp this ▸ he

/-- the functions that run input- or script-controlled code all recover -/
theorem stages_recover :
    ["parse", "compiler.run", "VM.run", "VM.Func"].all
      (fun n => (Gen.funcs.filter (·.name == n)).all (·.recovers) && (Gen.funcs.any (·.name == n))) = true := by
  refine List.all_eq_true.mpr fun n hn => ?_
  -- the expectations say so, and the expectations are what was extracted
  obtain ⟨e, he, rfl, hr⟩ : ∃ e ∈ expected, e.name = n ∧ e.recovers = true := by
    revert n; decide
  have hm : e ∈ Gen.funcs := (List.mem_filter.mp (filter_expected he ▸ List.mem_singleton_self e)).1
  rw [filter_expected he, Bool.and_eq_true]
  exact ⟨by rw [List.all_cons, hr]; rfl, List.any_eq_true.mpr ⟨e, hm, beq_iff_eq.mpr rfl⟩⟩

/-- `Eval` and `Load` name a stage on every error they return -/
theorem entry_errors_name_a_stage :
    (Gen.funcs.filter (fun f => f.name == "VM.Eval" || f.name == "VM.Load")).all
      (fun f => f.bareErr == 0 && f.stages.all (fun s =>
        ["tokenize", "parse", "load", "loadImports", "compile", "compile (imports)", "run", "run (imports)"].contains s)) = true := by
  rw [List.all_eq_true]
  intro f hf
  rw [List.mem_filter] at hf
  have he : f ∈ expected := by
    refine mem_expected hf.1 ?_
    rcases Bool.or_eq_true_iff.mp hf.2 with h | h <;> rw [beq_iff_eq.mp h] <;> decide
  -- what is left is a statement about the expectations
  replace hf := hf.2
  revert f he hf
  decide

/-- no other function of the package installs a recover that could swallow an error silently (`sameObject` calls
    nothing: the only panic its recover can meet is that of comparing two host values of an uncomparable type) -/
theorem recovers_are_exactly :
    (Gen.funcs.filter (·.recovers)).map (·.name) = ["VM.Func", "VM.run", "compiler.run", "parse", "sameObject"] := by decide +kernel

example : btErrPick 5 5 2 = .code 4 ∧ btErrPick 0 0 3 = .callSite 2 ∧ btErrPick 0 0 0 = .zero := by decide

end Goat.Props.C03

#print axioms Goat.Props.C03.btErr_total
#print axioms Goat.Props.C03.btErrWalk_inRange
#print axioms Goat.Props.C03.containment_structure
#print axioms Goat.Props.C03.stages_recover
#print axioms Goat.Props.C03.entry_errors_name_a_stage
#print axioms Goat.Props.C03.recovers_are_exactly
