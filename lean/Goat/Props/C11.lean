import Goat.Model.Slice
/-!
# C11 — slices alias, grow and copy as Go slices do

Theorems about the view/heap model of slices, for all heaps, all views and **every growth
policy** (the capacity of a reallocated array is a parameter):

* `alias_write` — a write through one view is visible through every view of the same array at
  the same cell, and nowhere else;
* `subslice_shares` — `s[i:j]` is a view of the same array, shifted by `i`;
* `append_in_place` — within the capacity `append` reuses the array, keeps every cell below the
  old length and returns a view of the same array (that the new elements land right after the
  old ones is not stated; the second example below exercises it);
* `append_fresh` — beyond the capacity `append` allocates a new array and leaves every existing
  array — hence the original slice and all its aliases — untouched;
* `copy_count` — `copy` reports min(len(dst), len(src)) elements moved;
* `index_out_of_range` / `slice_out_of_range` — out-of-range indexing and slicing are errors.

Since `sliceT` wraps a Go slice these are facts about Go's own semantics as the model states
them; what ties goatlang to the model is the correspondence (a pool of aliasing slice variables,
every live variable's contents compared after each step, capacities supplied by the real
objects), where the goatlang-specific parts — nil slices, element typing, spread, SLICE's
omitted bounds — are exercised.
-/
namespace Goat.Props.C11
open Goat.Slice

variable {V : Type}

theorem getElem?_writeCell (h : Heap V) (a i : Nat) (x : V) (a' : Nat) :
    (writeCell h a i x)[a']? = if a' = a then (h[a]?).map (·.set i x) else h[a']? := by
  unfold writeCell
  by_cases ha : a' = a
  · subst ha
    rw [if_pos rfl]
    cases hr : h[a']? with
    | none => exact hr
    | some => exact List.getElem?_set_self (List.getElem?_eq_some_iff.mp hr).1
  · rw [if_neg ha]
    cases h[a]? with
    | none => rfl
    | some => exact List.getElem?_set_ne (Ne.symm ha)

theorem cell_writeCell (h : Heap V) (a i : Nat) (x : V) (a' i' : Nat) :
    cell (writeCell h a i x) a' i' =
      if a' = a ∧ i' = i then (cell h a i).map fun _ => x else cell h a' i' := by
  unfold cell
  rw [getElem?_writeCell]
  by_cases ha : a' = a
  · subst ha
    rw [if_pos rfl]
    cases h[a']? with
    | none => exact (ite_self _).symm
    | some =>
      by_cases hi : i' = i
      · subst hi; rw [if_pos ⟨rfl, rfl⟩]; exact List.getElem?_set_self'
      · rw [if_neg fun hh => hi hh.2]; exact List.getElem?_set_ne (Ne.symm hi)
  · rw [if_neg ha, if_neg fun hh => ha hh.1]

theorem alias_write (h h' : Heap V) (s t : View) (k k' : Nat) (x : V)
    (hs : sset h s k x = some h') (hc : (cell h s.arr (s.off + k)).isSome) :
    sget h' t k' =
      if k' < t.len ∧ t.arr = s.arr ∧ t.off + k' = s.off + k then some x else sget h t k' := by
  unfold sset at hs
  split at hs <;> cases hs
  obtain ⟨v, hv⟩ := Option.isSome_iff_exists.mp hc
  simp only [sget, cell_writeCell, hv, Option.map_some]
  by_cases hk' : k' < t.len <;> simp only [hk', if_true, if_false, true_and, false_and]

theorem subslice_shares (h : Heap V) (s t : View) (i j : Nat) (hsl : slice s i j = some t) :
    t.arr = s.arr ∧ t.off = s.off + i ∧ t.len = j - i ∧ t.cap = s.cap - i ∧
    ∀ k, k < t.len → sget h t k = cell h s.arr (s.off + i + k) := by
  unfold slice at hsl
  split at hsl <;> cases hsl
  exact ⟨rfl, rfl, rfl, rfl, fun k hk => if_pos hk⟩

theorem slice_out_of_range (s : View) (i j : Nat) (h : j < i ∨ s.cap < j) : slice s i j = none :=
  if_neg (by omega)

theorem index_out_of_range (h : Heap V) (s : View) (k : Nat) (x : V) (hk : s.len ≤ k) :
    sget h s k = none ∧ sset h s k x = none :=
  ⟨if_neg (Nat.not_lt.mpr hk), if_neg (Nat.not_lt.mpr hk)⟩

theorem writeMany_other (h : Heap V) (a i : Nat) (xs : List V) (a' : Nat) (ha : a' ≠ a) :
    (writeMany h a i xs)[a']? = h[a']? := by
  induction xs generalizing h i with
  | nil => rfl
  | cons x xs ih => rw [writeMany, ih, getElem?_writeCell, if_neg ha]

theorem writeMany_below (h : Heap V) (a i : Nat) (xs : List V) (j : Nat) (hj : j < i) :
    cell (writeMany h a i xs) a j = cell h a j := by
  induction xs generalizing h i with
  | nil => rfl
  | cons x xs ih =>
    rw [writeMany, ih _ _ (Nat.lt_succ_of_lt hj), cell_writeCell, if_neg fun hh => Nat.ne_of_lt hj hh.2]

/-- **append_in_place.** Within the capacity the result is a view of the *same* array with the
    same offset, longer by the number of appended elements; every other array and every cell below
    the old end is unchanged. -/
theorem append_in_place (h : Heap V) (s : View) (xs : List V) (newCap : Nat) (pad : V)
    (hfit : s.len + xs.length ≤ s.cap) :
    (append h s xs newCap pad).2 = { s with len := s.len + xs.length } ∧
    (∀ a', a' ≠ s.arr → (append h s xs newCap pad).1[a']? = h[a']?) ∧
    (∀ j, j < s.off + s.len → cell (append h s xs newCap pad).1 s.arr j = cell h s.arr j) := by
  rw [append, if_pos hfit]
  exact ⟨rfl, writeMany_other h _ _ xs, writeMany_below h _ _ xs⟩

/-- **append_fresh.** Beyond the capacity a new array is allocated and no existing array changes:
    the original slice and all its aliases keep their contents, whatever capacity the runtime
    picks for the new array. -/
theorem append_fresh (h : Heap V) (s : View) (xs : List V) (newCap : Nat) (pad : V)
    (hbig : s.cap < s.len + xs.length) :
    (append h s xs newCap pad).2.arr = h.length ∧
    (append h s xs newCap pad).2.len = s.len + xs.length ∧
    (∀ a', a' < h.length → (append h s xs newCap pad).1[a']? = h[a']?) ∧
    (∀ t : View, t.arr < h.length → contents (append h s xs newCap pad).1 t = contents h t) := by
  rw [append, if_neg (Nat.not_le.mpr hbig)]
  refine ⟨rfl, rfl, fun a' ha => List.getElem?_append_left ha, fun t ht => ?_⟩
  rw [contents, List.getElem?_append_left ht]; rfl

theorem copy_count (h : Heap V) (dst src : View) : (copy h dst src).2 = min dst.len src.len := rfl

/-! ### non-vacuity: the classic aliasing scenarios -/

/-- `s := []int{1,2,3,4}; t := s[1:3]; t[0] = 9` → s is `[1 9 3 4]` -/
example :
    let (h, s) := alloc ([] : Heap Nat) [1, 2, 3, 4]
    (slice s 1 3).bind (fun t => (sset h t 0 9).map (fun h' => contents h' s)) = some [1, 9, 3, 4] := by decide

/-- `t := s[1:3]; t = append(t, 7)` writes s[3] in place (capacity 3 ≥ 3) -/
example :
    let (h, s) := alloc ([] : Heap Nat) [1, 2, 3, 4]
    (slice s 1 3).map (fun t => contents (append h t [7] 0 0).1 s) = some [1, 2, 3, 7] := by decide

/-- `t := append(s, 5)` (capacity exceeded) leaves s alone; writing t[0] is not seen through s -/
example :
    let (h, s) := alloc ([] : Heap Nat) [1, 2, 3]
    let (h1, t) := append h s [5] 8 0
    (sset h1 t 0 9).map (fun h2 => (contents h2 s, contents h2 t)) = some ([1, 2, 3], [9, 2, 3, 5]) := by decide

end Goat.Props.C11

#print axioms Goat.Props.C11.alias_write
#print axioms Goat.Props.C11.subslice_shares
#print axioms Goat.Props.C11.append_in_place
#print axioms Goat.Props.C11.append_fresh
#print axioms Goat.Props.C11.copy_count
#print axioms Goat.Props.C11.index_out_of_range
#print axioms Goat.Props.C11.slice_out_of_range
