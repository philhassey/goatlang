import Goat.Model.TreeSort
import Goat.Lemmas.Resolve
/-!
# C16 — declaration order and file layout inside a package do not matter

The sorting half of the mechanism, in closed form: `treeSort l` is the
concatenation, in descending priority order, of the sub-lists of `l` of each priority, each in
source order (`sort_closed_form`). Hence hoistable declarations (types, consts, methods,
functions) precede everything else, `init` comes last, and items of one class — in particular
variable initialisers and statements — keep their relative source order; and two lists that
differ only by a permutation of their hoistable declarations are sorted to lists that differ
only inside the type / method / function blocks (`sort_respects_permutation`).

That two declarations *within* such a block commute at run time (distinct global slots,
interned indexes renamed) is not proved in Lean; it is checked by search (all permutations /
random partitions of generated packages must print the same).

The other half - what a reference in a hoisted body means does not depend on the order in which the
bodies are compiled - is proved over the Resolve model: `resolve_layout_independent` for bare tables,
and for a loaded package, whose names `declareFuncs` enters first, `package_layout_independent`.
-/
namespace Goat.Props.C16
open Goat.TreeSort

variable {α : Type}

/-- the sub-lists of each level, highest level first -/
def blocks (pr : α → Int) (ps : List Int) (l : List α) : List α :=
  ps.flatMap (fun p => l.filter (fun x => pr x = p))

theorem blocks_cons (pr : α → Int) (p : Int) (ps : List Int) (l : List α) :
    blocks pr (p :: ps) l = l.filter (fun x => pr x = p) ++ blocks pr ps l := rfl

theorem mem_blocks {pr : α → Int} {ps : List Int} {l : List α} {y : α} :
    y ∈ blocks pr ps l ↔ y ∈ l ∧ pr y ∈ ps := by
  simp only [blocks, List.mem_flatMap, List.mem_filter, decide_eq_true_eq]
  exact ⟨fun ⟨_, hp, hy, e⟩ => ⟨hy, e ▸ hp⟩, fun ⟨hy, hp⟩ => ⟨_, hp, hy, rfl⟩⟩

theorem blocks_congr (pr : α → Int) (ps : List Int) (l1 l2 : List α)
    (h : ∀ p ∈ ps, l1.filter (fun x => pr x = p) = l2.filter (fun x => pr x = p)) :
    blocks pr ps l1 = blocks pr ps l2 := by
  unfold blocks
  rw [List.flatMap_def, List.flatMap_def, List.map_congr_left h]

theorem ins_skip (pr : α → Int) (x : α) (A B : List α) (h : ∀ y ∈ A, pr y > pr x) :
    ins pr x (A ++ B) = A ++ ins pr x B := by
  induction A with
  | nil => rfl
  | cons y t ih =>
    rw [List.cons_append, ins, if_neg (Int.not_le.mpr (h y List.mem_cons_self)),
      ih fun z hz => h z (List.mem_cons_of_mem _ hz), List.cons_append]

theorem ins_front (pr : α → Int) (x : α) (B : List α) (h : ∀ y ∈ B, pr y ≤ pr x) :
    ins pr x B = x :: B := by
  cases B with
  | nil => rfl
  | cons y => exact if_pos (h y List.mem_cons_self)

/-- `ins` puts `x` behind elements of greater priority only, so it does not change the order inside a class -/
theorem filter_ins (pr : α → Int) (p : Int) (x : α) (l : List α) :
    (ins pr x l).filter (fun y => pr y = p) = (x :: l).filter (fun y => pr y = p) := by
  induction l with
  | nil => rfl
  | cons y t ih =>
    rw [ins]
    split
    · rfl
    · rw [List.filter_cons, ih]
      by_cases hy : pr y = p
      · have hx : pr x ≠ p := fun hx => ‹¬pr x ≥ pr y› (hx ▸ hy ▸ Int.le_refl _)
        simp only [List.filter_cons, hy, hx, decide_true]; rfl
      · simp only [List.filter_cons, hy]; rfl

theorem ins_blocks (pr : α → Int) (ps : List Int) (hdesc : ps.Pairwise (· > ·)) (x : α) (l : List α)
    (hx : pr x ∈ ps) : ins pr x (blocks pr ps l) = blocks pr ps (x :: l) := by
  induction ps with
  | nil => cases hx
  | cons p ps ih =>
    obtain ⟨hp, hd⟩ := List.pairwise_cons.mp hdesc
    by_cases hxp : pr x = p
    · -- x belongs to the first block, and nothing in the closed form has a greater priority: it goes in front
      subst hxp
      rw [blocks_cons pr _ ps (x :: l), List.filter_cons, if_pos (decide_eq_true rfl),
        blocks_congr pr ps (x :: l) l fun q hq => List.filter_cons_of_neg (by simpa using Int.ne_of_gt (hp q hq))]
      exact ins_front pr x _ fun y hy =>
        (List.mem_cons.mp (mem_blocks.mp hy).2).elim Int.le_of_eq fun h => Int.le_of_lt (hp _ h)
    · -- otherwise it is skipped past the first block, whose priority is greater
      have hxps := (List.mem_cons.mp hx).resolve_left hxp
      rw [blocks_cons, blocks_cons, List.filter_cons, if_neg (by simpa using hxp), ← ih hd hxps]
      exact ins_skip pr x _ _ fun y hy => of_decide_eq_true (List.mem_filter.mp hy).2 ▸ hp _ hxps

/-- **closed form of the sort**, for any priority function and any list of levels that is strictly
    descending and contains every priority that occurs -/
theorem sortDesc_blocks (pr : α → Int) (ps : List Int) (hdesc : ps.Pairwise (· > ·)) :
    ∀ l : List α, (∀ x ∈ l, pr x ∈ ps) → sortDesc pr l = blocks pr ps l := by
  intro l
  induction l with
  | nil => intro _; simp [sortDesc, blocks]
  | cons x l ih =>
    intro h
    rw [sortDesc, ih (fun y hy => h y (List.mem_cons_of_mem _ hy))]
    exact ins_blocks pr ps hdesc x l (h x (List.mem_cons_self ..))

/-! ### facts about the regenerated priority table (kernel evaluation) -/

theorem levels_desc : levels.Pairwise (· > ·) := by decide

theorem levels_value : levels = [100, 90, 80, 70, 60, 50, 0, -10] := by decide

/-- every kind's priority is one of the levels (kinds outside the table have priority 0) -/
theorem prio_mem_levels (k : String) : prio k ∈ levels := by
  unfold prio
  cases h : Gen.treePriority.lookup k with
  | none => exact levels_value ▸ by decide
  | some v =>
    obtain ⟨l₁, l₂, e, _⟩ := List.lookup_eq_some_iff.mp h
    have : ∀ p ∈ Gen.treePriority, p.2 ∈ levels := by decide
    exact this (k, v) (e ▸ List.mem_append_right _ List.mem_cons_self)

/-- hoisting order of the kinds: import, type, const, method, function before everything else;
    init after everything else -/
theorem table_hoists :
    prio "import" > prio "type" ∧ prio "type" > prio "const" ∧ prio "const" > prio "method" ∧
    prio "method" > prio "function" ∧ prio "function" > 0 ∧ prio "init" < 0 ∧
    prio "var" = 0 ∧ prio ":=" = 0 ∧ prio "call" = 0 ∧ prio "=" = 0 ∧ prio "for" = 0 ∧ prio "if" = 0 := by decide +kernel

/-- **sort_closed_form.** `treeSort` returns the nodes of priority 100, then 90, …, then 0, then
    −10, each group in source order: hoistable declarations first, `init` last, everything else
    (variable initialisers, statements) in between in its source order. -/
theorem sort_closed_form (l : List (String × α)) :
    treeSort l = blocks (fun n => prio n.1) levels l :=
  sortDesc_blocks _ levels levels_desc l (fun x _ => prio_mem_levels x.1)

/-- sorting does not change the order inside a class: the nodes of each priority appear in the
    output in their source order -/
theorem sort_keeps_class_order (l : List (String × α)) (p : Int) :
    (treeSort l).filter (fun n => prio n.1 = p) = l.filter (fun n => prio n.1 = p) := by
  unfold treeSort
  induction l with
  | nil => rfl
  | cons x l ih => rw [sortDesc, filter_ins, List.filter_cons, ih, List.filter_cons]

/-- **sort_respects_permutation.** Two top-level lists with the same nodes in each non-hoistable
    class in the same order, and the same hoistable declarations in any order, are sorted to lists
    that agree block by block: equal on every class whose source order was equal, permutations of
    each other on the rest. -/
theorem sort_respects_permutation (l1 l2 : List (String × α)) (p : Int)
    (h : (l1.filter (fun n => prio n.1 = p)).Perm (l2.filter (fun n => prio n.1 = p))) :
    ((treeSort l1).filter (fun n => prio n.1 = p)).Perm ((treeSort l2).filter (fun n => prio n.1 = p)) ∧
    (l1.filter (fun n => prio n.1 = p) = l2.filter (fun n => prio n.1 = p) →
      (treeSort l1).filter (fun n => prio n.1 = p) = (treeSort l2).filter (fun n => prio n.1 = p)) := by
  rw [sort_keeps_class_order, sort_keeps_class_order]
  exact ⟨h, id⟩

/-- the output is the concatenation of its classes, so it is determined by them -/
theorem sort_determined_by_classes (l1 l2 : List (String × α))
    (h : ∀ p ∈ levels, l1.filter (fun n => prio n.1 = p) = l2.filter (fun n => prio n.1 = p)) :
    treeSort l1 = treeSort l2 := by
  rw [sort_closed_form, sort_closed_form]
  exact blocks_congr _ _ _ _ h

/-! ### the other half: what a reference means does not depend on the compile order

Hoisting decides in which order bodies are compiled; the table of globals that a body is compiled
against therefore differs between layouts (which package-level keys already exist, which types other
functions declared). The resolution of an identifier reads only three things from that table. -/

open Goat.Resolve

/-- **resolve_layout_independent.** Two tables - the table of globals as two different compile orders of the
    package's declarations leave it when the body of a function is reached - that agree on the function's own
    types and on the builtins give the same resolution of an identifier, provided they agree on the package-level
    key of every identifier that is ALSO a builtin. (For every other identifier the order cannot matter: a
    package-level name that is not there yet is a forward reference to the same key.) -/
theorem resolve_layout_independent (t1 t2 : Tab) (c : Ctx) (x : String)
    (hl : Key.ltype c.fn x ∈ t1.keys ↔ Key.ltype c.fn x ∈ t2.keys)
    (hb : Key.builtin x ∈ t1.keys ↔ Key.builtin x ∈ t2.keys)
    (hg : Key.builtin x ∈ t1.keys → (Key.glob x ∈ t1.keys ↔ Key.glob x ∈ t2.keys)) :
    resolve t1 c x = resolve t2 c x := by
  simp only [resolve_eq, hl, hb]
  -- the package-level key is read only in front of the builtin test, and without the builtin both answers are it
  by_cases hbx : Key.builtin x ∈ t2.keys
  · simp only [hg (hb.mpr hbx)]
  · simp only [if_neg hbx, ite_self]

/-- in particular: no package-level name of the package is spelled like a builtin -/
theorem resolve_layout_independent_of_no_clash (t1 t2 : Tab) (c : Ctx) (x : String)
    (hl : Key.ltype c.fn x ∈ t1.keys ↔ Key.ltype c.fn x ∈ t2.keys)
    (hb : Key.builtin x ∈ t1.keys ↔ Key.builtin x ∈ t2.keys)
    (n1 : Key.builtin x ∈ t1.keys → Key.glob x ∉ t1.keys) (n2 : Key.builtin x ∈ t2.keys → Key.glob x ∉ t2.keys) :
    resolve t1 c x = resolve t2 c x :=
  resolve_layout_independent t1 t2 c x hl hb (fun h => ⟨fun g => absurd g (n1 h), fun g => absurd g (n2 (hb.mp h))⟩)

/-- on bare tables the excluded case is real: a package-level name spelled like a builtin is found when its key is
    there before the reference and the builtin is taken when it is not (the former finding C16 builtin-named-function;
    it remains the behaviour of successive Eval chunks, where it is the order of the statements - C18) -/
theorem builtin_clash_order_dependent :
    resolve { keys := [.builtin "println", .glob "println"], compiled := [] } { fn := "main.use", inScope := true, locals := [] } "println"
      ≠ resolve { keys := [.builtin "println"], compiled := [] } { fn := "main.use", inScope := true, locals := [] } "println" := by
  decide

/-! For a loaded package the excluded case cannot arise for functions (fix 36683fb): -/

/-- **declared_function_resolves_to_package.** compilePkgs declares the names of a package's functions before it
    compiles the package (`Gen.predeclaresFuncs`, regenerated). Then, in every body of the package - whatever was
    compiled before it: any order of the declarations, any split into files, a first load or a reload - a reference
    to a function of the package that no local and no type of the body hides is the package's function, also when a
    builtin has that name. -/
theorem declared_function_resolves_to_package (t : Tab) (names : List String) (h : List Ev) (c : Ctx) (x : String)
    (hx : x ∈ names) (hd : x ≠ "$") (hl : x ∉ c.locals) (ht : Key.ltype c.fn x ∉ (h.foldl step (predeclare t names)).keys) :
    resolve (h.foldl step (predeclare t names)) c x = .globalGet (.glob x) :=
  package_beats_builtin _ c x hd hl ht (glob_mem_foldl h _ x ((mem_predeclare ..).mpr (Or.inr ⟨x, hx, rfl⟩)))

/-- **resolve_layout_independent_declared.** In particular two layouts of the package (two histories after the same
    declaration of the function names) resolve such a reference alike -/
theorem resolve_layout_independent_declared (t : Tab) (names : List String) (h1 h2 : List Ev) (c : Ctx) (x : String)
    (hx : x ∈ names) (hd : x ≠ "$") (hl : x ∉ c.locals)
    (t1 : Key.ltype c.fn x ∉ (h1.foldl step (predeclare t names)).keys)
    (t2 : Key.ltype c.fn x ∉ (h2.foldl step (predeclare t names)).keys) :
    resolve (h1.foldl step (predeclare t names)) c x = resolve (h2.foldl step (predeclare t names)) c x := by
  rw [declared_function_resolves_to_package t names h1 c x hx hd hl t1,
    declared_function_resolves_to_package t names h2 c x hx hd hl t2]

theorem predeclare_tie : Gen.predeclaresFuncs = true := by decide

/-- what happens to the table while the bodies of a loaded package are compiled: a body is compiled (its types come
    and go), or an identifier that is found nowhere is entered as a forward reference - which happens only to
    identifiers that are not builtins (the builtin is found first) -/
def BodyEv (base : Tab) : Ev → Prop
  | .compile f _ => f ≠ ""
  | .addKey (.glob x) => Key.builtin x ∉ base.keys
  | .addKey _ => False

theorem builtin_mem_foldl (base : Tab) (h : List Ev) (hh : ∀ e ∈ h, BodyEv base e) (t : Tab) (x : String) :
    Key.builtin x ∈ (h.foldl step t).keys ↔ Key.builtin x ∈ t.keys :=
  (mem_foldl_step h t (.builtin x) (fun _ _ => nofun)).trans (or_iff_left (hh _))

/-- a package-level key that appears while bodies are compiled belongs to an identifier that is not a builtin -/
theorem glob_new_foldl (base : Tab) (h : List Ev) (hh : ∀ e ∈ h, BodyEv base e) (t : Tab) (x : String)
    (hm : Key.glob x ∈ (h.foldl step t).keys) : Key.glob x ∈ t.keys ∨ Key.builtin x ∉ base.keys :=
  ((mem_foldl_step h t (.glob x) (fun _ _ => nofun)).mp hm).imp_right (hh _)

/-- **package_layout_independent.** A loaded package: `base` is the table before it (builtins, earlier packages),
    `names` the package-level names that `declareFuncs` enters first; then bodies are compiled in some order, entering
    forward references as they go. For ANY two such histories - two orders of the declarations, two splits into
    files - every identifier in every body resolves alike, provided the two agree on the types the body itself has
    declared so far. No hypothesis about builtins is left: a name of the package hides a builtin in both layouts, and
    a builtin that the package does not declare is the builtin in both. -/
theorem package_layout_independent (base : Tab) (names : List String) (h1 h2 : List Ev)
    (b1 : ∀ e ∈ h1, BodyEv base e) (b2 : ∀ e ∈ h2, BodyEv base e) (c : Ctx) (x : String)
    (hl : Key.ltype c.fn x ∈ (h1.foldl step (predeclare base names)).keys ↔
          Key.ltype c.fn x ∈ (h2.foldl step (predeclare base names)).keys) :
    resolve (h1.foldl step (predeclare base names)) c x = resolve (h2.foldl step (predeclare base names)) c x := by
  -- the builtins are those of `base` in both tables
  have hb : ∀ h : List Ev, (∀ e ∈ h, BodyEv base e) →
      (Key.builtin x ∈ (h.foldl step (predeclare base names)).keys ↔ Key.builtin x ∈ base.keys) := fun h hh =>
    (builtin_mem_foldl base h hh _ x).trans ((mem_predeclare ..).trans (or_iff_left nofun))
  refine resolve_layout_independent _ _ c x hl ((hb h1 b1).trans (hb h2 b2).symm) fun hbx => ?_
  -- an identifier that is a builtin has its package-level key iff it had it after the declaration of the names
  have key : ∀ h : List Ev, (∀ e ∈ h, BodyEv base e) →
      (Key.glob x ∈ (h.foldl step (predeclare base names)).keys ↔ Key.glob x ∈ (predeclare base names).keys) :=
    fun h hh => ⟨fun hm => (glob_new_foldl base h hh _ x hm).resolve_right (not_not_intro ((hb h1 b1).mp hbx)),
      glob_mem_foldl h _ x⟩
  rw [key h1 b1, key h2 b2]

-- non-vacuity: the builtin is in the table, the function is declared after its caller
example : resolve ([Ev.compile "app.Use" [], .compile "app.println" []].foldl step
      (predeclare { keys := [.builtin "println"], compiled := [] } ["Use", "println", "Main"]))
    { fn := "app.Use", inScope := true, locals := [] } "println" = .globalGet (.glob "println") := by decide +kernel
example : resolve ([Ev.compile "app.println" [], .compile "app.Use" []].foldl step
      (predeclare { keys := [.builtin "println"], compiled := [] } ["Use", "println", "Main"]))
    { fn := "app.Use", inScope := true, locals := [] } "println" = .globalGet (.glob "println") := by decide +kernel

example : treeSort [("var", 1), ("function", 2), ("call", 3), ("init", 4), ("type", 5), ("method", 6), (":=", 7), ("function", 8), ("const", 9), ("import", 10)]
    = [("import", 10), ("type", 5), ("const", 9), ("method", 6), ("function", 2), ("function", 8), ("var", 1), ("call", 3), (":=", 7), ("init", 4)] := by decide +kernel

end Goat.Props.C16

#print axioms Goat.Props.C16.sortDesc_blocks
#print axioms Goat.Props.C16.levels_desc
#print axioms Goat.Props.C16.prio_mem_levels
#print axioms Goat.Props.C16.table_hoists
#print axioms Goat.Props.C16.sort_closed_form
#print axioms Goat.Props.C16.sort_keeps_class_order
#print axioms Goat.Props.C16.sort_respects_permutation
#print axioms Goat.Props.C16.sort_determined_by_classes
#print axioms Goat.Props.C16.resolve_layout_independent
#print axioms Goat.Props.C16.resolve_layout_independent_of_no_clash
#print axioms Goat.Props.C16.builtin_clash_order_dependent
#print axioms Goat.Props.C16.declared_function_resolves_to_package
#print axioms Goat.Props.C16.resolve_layout_independent_declared
#print axioms Goat.Props.C16.predeclare_tie
#print axioms Goat.Props.C16.builtin_mem_foldl
#print axioms Goat.Props.C16.glob_new_foldl
#print axioms Goat.Props.C16.package_layout_independent
