import Goat.Lemmas.CF
/-!
# C06 — break, continue and return reach the target Go specifies

`compile_correct`: for every statement built from simple statements, sequences, `if` with and without
`else`, `for` with and without condition, `switch` with any number of clauses and an optional default,
`for … range`, `break`, `continue` and `return` — at **every nesting depth**, for arbitrary leaf codes and
leaf semantics — running the code that the compile schemes emit (placeholders rewritten by the enclosing
loop exactly as compiler.go does, relative jumps executed as do.go does) follows Go's big-step semantics:
it ends just past the statement's code, at the enclosing loop's break / continue target, or — after
`return`, from any depth of loops and switches — at the end of the function's code, with the state Go
prescribes. `body_correct` is the statement for a whole function body.

`switch` is a clause chain `case c₁: A₁ … default: D`: chunks chained by JUMPFALSE / JUMP, BREAK rewritten
per clause to the end of the switch and in the default clause to its own end (`rw_rwB`), CONTINUE left for
the enclosing loop. `range`: the item leaf runs once, RANGE installs the iterator and jumps to ITER, ITER
either assigns the next pair and jumps back to the first body instruction or falls through; `break` in the
body lands just past ITER, `continue` on ITER; the iterator is abstract (`rinit`, `rnext`, `rdone`); any
number of passes is followed by exhaustion, a pass that breaks, or one that returns (`rng_prefix`, `rng_run`).

A tagged switch `switch t { case a, b: … }` is the same scheme over derived leaves: `seq (act tag)
(swc …)` where the tag leaf ends in `LOCALSET hidden` and a clause's condition leaf is
`value; LOCALGET hidden; EQ` (several values chained by OR) - the correspondence harness builds
exactly these leaves and compares the whole function body.

PARTIAL: the iterators behind RANGE are abstract here (strings: C13), and the staged peephole
passes enter through C02.opt_transparent and the instruction-for-instruction correspondence of the
emitted code; C07's verifier checks all emitted code, and Go-toolchain runs cover nests
enumerated exhaustively for small depths.
-/
namespace Goat.Props.C06
open Goat.CF Goat.Peephole

variable {σ : Type} {M : Sem σ} {L : Leaves}

theorem rw_single_noPH (db dc : Nat) (i : Instr) (h : isPH i = false) : rw db dc [i] = [i] :=
  rw_noPH db dc [i] (List.forall_mem_singleton.2 h)

section Blocks
variable {A B F : List Instr} {s s' : σ} {o : Out} {c : Nat}

theorem runs_brk (s : σ) : Runs M L (compile L .brk) s .brk s := by
  intro C pc db dc stk hc
  have e : rw db dc (compile L .brk) = rw 0 0 [jump "JUMP" (db : Nat)] := by simp [compile, rw, rwI, jump]
  exact Skips.jmp db s C pc 0 0 stk (e ▸ hc)

theorem runs_cont (s : σ) : Runs M L (compile L .cont) s .cont s := by
  intro C pc db dc stk hc
  have e : rw db dc (compile L .cont) = rw 0 0 [jump "JUMP" (dc : Nat)] := by simp [compile, rw, rwI, jump]
  exact Skips.jmp dc s C pc 0 0 stk (e ▸ hc)

theorem runs_return (s : σ) : Runs M L [{ op := "RETURN" }] s .ret s :=
  fun _ _ _ _ _ hc => .one (Step.ret (hc.rw_head noPH_of_op) rfl)

theorem runs_else (h : Runs M L F s o s') (B : List Instr) :
    Runs M L (F ++ [jump "JUMP" B.length] ++ B) s o s' := by
  by_cases ho : o = .normal
  · subst ho
    exact (h.skips.seq (Skips.jmp _ _)).over rfl
  · exact (h.exit ho).exit ho

/-- `ite` and `swc` with a false condition; in `swc` the block `A` is a clause after `rwB`, and the
    JUMPFALSE offset is computed from the clause before it: hence `n` -/
theorem runs_false (ok : LeavesOK M L) (hv : M.cval c s = false) (h : Runs M L B (M.ceff c s) o s') (a : Int)
    {n : Nat} (hA : A.length = n) :
    Runs M L (L.cnd c ++ [jump "JUMPFALSE" (n + 1)] ++ A ++ [jump "JUMP" a] ++ B) s o s' :=
  hA ▸ (((Skips.cndF ok hv (A.length + 1)).over rfl).over rfl).then h

/-- a `switch` clause: its BREAKs jump `k` past its end whatever the enclosing loop does (`rw_rwB`) -/
theorem runs_rwB (h : Runs M L A s o s') (ho : o ≠ .brk) (k : Nat) : Runs M L (rwB k A) s o s' := by
  intro C pc db dc stk hc
  rw [rw_rwB] at hc
  rw [rwB_length]
  have := h C pc k dc stk hc
  cases o <;> first | exact this | exact absurd rfl ho

theorem skips_rwB (h : Runs M L A s .brk s') (k : Nat) : Skips M L (rwB k A) s k s' :=
  fun C pc db dc stk hc => rwB_length k A ▸ h C pc k dc stk (rw_rwB db dc k A ▸ hc)

end Blocks

section Loops
variable {c : Nat} {b : Stmt} {p : Nat} {C : List Instr} {pc db dc : Nat}

/-- `for ; c ; p { b }` at `pc`: the entry jump to the test at `e`; the test failing leaves the loop;
    the test succeeding runs the body from `pc + 1`; the post statement leads back to the test; a
    `break` in the body lands just past the loop -/
theorem loop_parts (ok : LeavesOK M L) (hc : CodeAt C pc (rw db dc (compile L (.loop c b p)))) (stk : List Bool) :
    let e := entry2 L pc (.loop c b p)
    let k := 1 + (L.act p).length + (L.cnd c).length
    (∀ s, Star M L C (pc, stk, s) (e, stk, s)) ∧
    (∀ s, M.cval c s = false →
      Star M L C (e, stk, s) (tgt C.length pc (compile L (.loop c b p)).length db dc .normal, stk, M.ceff c s)) ∧
    (∀ s o s1, M.cval c s = true → Runs M L (compile L b) (M.ceff c s) o s1 →
      Star M L C (e, stk, s) (tgt C.length (pc + 1) (compile L b).length k 0 o, stk, s1)) ∧
    (∀ s, Star M L C (pc + 1 + (compile L b).length, stk, s) (e, stk, M.act p s)) ∧
    tgt C.length (pc + 1) (compile L b).length k 0 .brk = tgt C.length pc (compile L (.loop c b p)).length db dc .normal := by
  have len : tgt C.length pc (compile L (.loop c b p)).length db dc .normal =
      pc + 1 + (compile L b).length + (L.act p).length + (L.cnd c).length + 1 := by
    simp only [tgt, offs, compile, List.length_append, List.length_singleton, rw_length, Nat.add_zero, ← Nat.add_assoc]
  -- JUMP :: (body ++ (post ++ (cond ++ [JUMPTRUE])))
  simp only [compile, List.append_assoc, List.singleton_append] at hc
  have hJ := hc.rw_head noPH_of_op
  have h1 := hc.tail
  have hB := h1.rw_left.noPH (noPH_rw _ _ _)
  have h2 := h1.rw_right
  rw [rw_length] at h2
  have hP := h2.rw_left.noPH (ok.act_noPH p)
  have test := fun s => run_test ok (stk := stk) noPH_of_op h2.rw_right s
  rw [len]
  dsimp only [entry2]
  refine ⟨fun s => ?_, fun s hv => ?_, fun s o s1 hv hb => ?_, fun s => run_act ok hP, ?_⟩
  · exact .one (Step.jmp hJ rfl (by simp only [jump]; omega))
  · exact (hv ▸ (test s).1).snoc (Step.jtF (test s).2 rfl)
  · exact ((hv ▸ (test s).1).snoc (Step.jtT (test s).2 rfl (by simp only [jump]; omega))).trans (hb C _ _ 0 stk hB)
  · simp only [tgt, offs]; omega

/-- a run of the loop from its test is one from its first instruction too -/
theorem loop_both (ok : LeavesOK M L) {s s' : σ} {o : Out}
    (h : RunsFrom M L (entry2 L · (.loop c b p)) (compile L (.loop c b p)) s o s') :
    Runs M L (compile L (.loop c b p)) s o s' ∧ RunsFrom M L (entry2 L · (.loop c b p)) (compile L (.loop c b p)) s o s' :=
  ⟨fun C pc db dc stk hc => ((loop_parts ok hc stk).1 s).trans (h C pc db dc stk hc), h⟩

theorem forever_parts (ok : LeavesOK M L) (hc : CodeAt C pc (rw db dc (compile L (.forever b p)))) (stk : List Bool) :
    CodeAt C pc (rw (1 + (L.act p).length) 0 (compile L b)) ∧
    (∀ s, Star M L C (pc + (compile L b).length, stk, s) (pc, stk, M.act p s)) ∧
    tgt C.length pc (compile L b).length (1 + (L.act p).length) 0 .brk =
      tgt C.length pc (compile L (.forever b p)).length db dc .normal := by
  have len : tgt C.length pc (compile L (.forever b p)).length db dc .normal =
      pc + (compile L b).length + (L.act p).length + 1 := by
    simp only [tgt, offs, compile, List.length_append, List.length_singleton, rw_length, Nat.add_zero, ← Nat.add_assoc]
  simp only [compile, List.append_assoc] at hc
  have h1 := hc.rw_right
  rw [rw_length] at h1
  have hJ := h1.rw_right.rw_head noPH_of_op
  rw [len]
  refine ⟨hc.rw_left.noPH (noPH_rw _ _ _), fun s => ?_, ?_⟩
  · exact (run_act ok (h1.rw_left.noPH (ok.act_noPH p))).snoc (Step.jmp hJ rfl (by simp only [jump]; omega))
  · simp only [tgt, offs]; omega

end Loops

theorem step_iter {C : List Instr} {pb len : Nat} {stk : List Bool} {r kv : Int} {s a : σ}
    (hI : C[pb + len]? = some { op := "ITER", a := r, b := kv, c := -((len : Int) + 1) })
    (h : M.rnext r kv s = some a) : Step M L C (pb + len, stk, s) (pb, stk, a) :=
  Step.iterT hI rfl h (show (pb : Int) = ((pb + len : Nat) : Int) + -((len : Int) + 1) + 1 by omega)

/-- `n` full passes of a `range` body: from the ITER instruction back to it, the iterator asked once
    per pass -/
theorem rng_prefix {C : List Instr} {pb len : Nat} {stk : List Bool} {r kv : Int} {n : Nat} {A S : Nat → σ}
    (hI : C[pb + len]? = some { op := "ITER", a := r, b := kv, c := -((len : Int) + 1) })
    (hnext : ∀ i, i < n → M.rnext r kv (S i) = some (A i))
    (hbody : ∀ i, i < n → Star M L C (pb, stk, A i) (pb + len, stk, S (i+1))) :
    ∀ k, k ≤ n → Star M L C (pb + len, stk, S 0) (pb + len, stk, S k) := by
  intro k
  induction k with
  | zero => exact fun _ => Star.refl
  | succ k ih => exact fun hk => (ih (Nat.le_of_succ_le hk)).trans (Star.step (step_iter hI (hnext k hk)) (hbody k hk))

section Range
variable {r kv : Int} {it : Nat} {b : Stmt} {s : σ} {n : Nat} {A S : Nat → σ} {O : Nat → Out} {C : List Instr} {pc : Nat}
  (h0 : S 0 = M.rinit r (M.act it s))
  (hnext : ∀ i, i < n → M.rnext r kv (S i) = some (A i))
  (hO : ∀ i, i < n → O i ≠ .brk ∧ O i ≠ .ret)
  (hB : ∀ i, i < n → Runs M L (compile L b) (A i) (O i) (S (i+1)))
include h0 hnext hO hB

theorem rng_passes (ok : LeavesOK M L) (stk : List Bool) (hc : CodeAt C pc (compile L (.rng r kv it b))) :
    Star M L C (pc, stk, s) (pc + (L.act it).length + 1 + (compile L b).length, stk, S n) ∧
    CodeAt C (pc + (L.act it).length + 1) (rw 1 0 (compile L b)) ∧
    C[pc + (L.act it).length + 1 + (compile L b).length]? =
      some { op := "ITER", a := r, b := kv, c := -(((compile L b).length : Int) + 1) } := by
  simp only [compile, List.append_assoc, List.singleton_append] at hc
  have hR := hc.right
  have t2 : Step M L C (pc + (L.act it).length, stk, M.act it s)
      (pc + (L.act it).length + 1 + (compile L b).length, stk, M.rinit r (M.act it s)) :=
    Step.range hR.head rfl (by push_cast; omega)
  have hB' := hR.tail.left
  have hI := hR.tail.right.head
  rw [rw_length] at hI
  have pre := rng_prefix hI hnext (fun i hi => tgt_pass (hO i hi).1 (hO i hi).2 ▸ hB i hi C _ 1 0 stk hB') n (Nat.le_refl n)
  rw [h0] at pre
  exact ⟨(run_act ok hc.left).trans (Star.step t2 pre), hB', hI⟩

/-- after the full passes: the iterator exhausted leaves the loop, another pair starts a last pass of
    the body, and a `break` in it lands just past the loop -/
theorem rng_parts (ok : LeavesOK M L) {db dc : Nat} (stk : List Bool)
    (hc : CodeAt C pc (rw db dc (compile L (.rng r kv it b)))) :
    (M.rnext r kv (S n) = none →
      Star M L C (pc, stk, s) (tgt C.length pc (compile L (.rng r kv it b)).length db dc .normal, stk, M.rdone r (S n))) ∧
    (∀ a o s', M.rnext r kv (S n) = some a → Runs M L (compile L b) a o s' →
      Star M L C (pc, stk, s) (tgt C.length (pc + (L.act it).length + 1) (compile L b).length 1 0 o, stk, s')) ∧
    tgt C.length (pc + (L.act it).length + 1) (compile L b).length 1 0 .brk =
      tgt C.length pc (compile L (.rng r kv it b)).length db dc .normal := by
  have len : tgt C.length pc (compile L (.rng r kv it b)).length db dc .normal =
      pc + (L.act it).length + 1 + (compile L b).length + 1 := by
    simp only [tgt, offs, compile, List.length_append, List.length_singleton, rw_length, Nat.add_zero, ← Nat.add_assoc]
  have hF : ∀ i ∈ compile L (.rng r kv it b), isPH i = false := by
    simp only [compile, List.forall_mem_append, List.forall_mem_singleton]
    exact ⟨⟨⟨ok.act_noPH it, noPH_of_op⟩, noPH_rw _ _ _⟩, noPH_of_op⟩
  obtain ⟨run, hB', hI⟩ := rng_passes h0 hnext hO hB ok stk (hc.noPH hF)
  rw [len]
  exact ⟨fun hend => run.snoc (Step.iterF hI rfl hend),
    fun a o s' hs h => (run.snoc (step_iter hI hs)).trans (h C _ 1 0 stk hB'), rfl⟩

end Range

/-- the common part of the three `range` outcomes: the item leaf, RANGE, and the full passes bring
    the machine to the ITER instruction in state `S n` -/
theorem rng_run (ok : LeavesOK M L) {r kv : Int} {it : Nat} {b : Stmt} {s : σ} {n : Nat} {A S : Nat → σ} {O : Nat → Out}
    {C : List Instr} {pc : Nat} {stk : List Bool}
    (h0 : S 0 = M.rinit r (M.act it s))
    (hnext : ∀ i, i < n → M.rnext r kv (S i) = some (A i))
    (hO : ∀ i, i < n → O i ≠ .brk ∧ O i ≠ .ret)
    (ihB : ∀ i, i < n → ∀ (C : List Instr) (pc db dc : Nat) (stk : List Bool), CodeAt C pc (rw db dc (compile L b)) →
      Star M L C (pc, stk, A i) (tgt C.length pc (compile L b).length db dc (O i), stk, S (i+1)) ∧
      Star M L C (entry2 L pc b, stk, A i) (tgt C.length pc (compile L b).length db dc (O i), stk, S (i+1)))
    (hc : CodeAt C pc (compile L (.rng r kv it b))) :
    Star M L C (pc, stk, s) (pc + (L.act it).length + 1 + (compile L b).length, stk, S n) ∧
    CodeAt C (pc + (L.act it).length + 1) (rw 1 0 (compile L b)) ∧
    C[pc + (L.act it).length + 1 + (compile L b).length]? =
      some { op := "ITER", a := r, b := kv, c := -(((compile L b).length : Int) + 1) } :=
  rng_passes h0 hnext hO (fun i hi C pc db dc stk h => (ihB i hi C pc db dc stk h).1) ok stk hc

/-- for every statement but a `loop`, `entry2 L pc s` unfolds to `pc`, so the two halves of
    `compile_runs` are one statement -/
theorem dup {p : Prop} (h : p) : p ∧ p := ⟨h, h⟩

/-- `compile_correct` with the placement quantified inside each half: the code of `s` as a block,
    from its first instruction and from the statement's re-entry point -/
theorem compile_runs (ok : LeavesOK M L) {s : Stmt} {st : σ} {o : Out} {st' : σ} (h : Exec M s st o st') :
    Runs M L (compile L s) st o st' ∧ RunsFrom M L (entry2 L · s) (compile L s) st o st' := by
  induction h with
  | act => exact dup (Skips.act ok _ _)
  | ret => exact dup ((Skips.act ok _ _).then (runs_return _))
  | brk => exact dup (runs_brk _)
  | cont => exact dup (runs_cont _)
  | seqN _ _ iha ihb => exact dup (iha.1.skips.then ihb.1)
  | seqX _ hne iha => exact dup (iha.1.exit hne)
  | iteT hv _ iha => exact dup (runs_else ((Skips.cndT ok hv _).then iha.1) _)
  | iteF hv _ ihb => exact dup (runs_false ok hv ihb.1 _ rfl)
  | iftT hv _ iha => exact dup ((Skips.cndT ok hv _).then iha.1)
  | iftF hv => exact dup ((Skips.cndF ok hv _).over rfl)
  | swdN _ hne ihd => exact dup (runs_rwB ihd.1 hne 0)
  | swdB _ ihd => exact dup (skips_rwB ihd.1 0)
  | swcT hv _ hne iha => exact dup (runs_else ((Skips.cndT ok hv _).then (runs_rwB iha.1 hne _)) _)
  | swcB hv _ iha =>
    exact dup ((((Skips.cndT ok hv _).seq (skips_rwB iha.1 _)).over (Nat.add_comm _ 1)).over rfl)
  | swcF hv _ ihr => exact dup (runs_false ok hv ihr.1 _ (rwB_length _ _))
  | loopF hv => exact loop_both ok fun C pc db dc stk hc => (loop_parts ok hc stk).2.1 _ hv
  | loopT hv _ hb hr _ ihb ihl =>
    refine loop_both ok fun C pc db dc stk hc => ?_
    obtain ⟨_, _, pass, post, _⟩ := loop_parts ok hc stk
    exact (tgt_pass hb hr ▸ pass _ _ _ hv ihb.1).trans ((post _).trans (ihl.2 C pc db dc stk hc))
  | loopR hv _ ihb => exact loop_both ok fun C pc db dc stk hc => (loop_parts ok hc stk).2.2.1 _ _ _ hv ihb.1
  | loopB hv _ ihb =>
    refine loop_both ok fun C pc db dc stk hc => ?_
    obtain ⟨_, _, pass, _, e⟩ := loop_parts ok hc stk
    exact e ▸ pass _ _ _ hv ihb.1
  | foreverT _ hb hr _ ihb ihl =>
    refine dup fun C pc db dc stk hc => ?_
    obtain ⟨hB, back, _⟩ := forever_parts ok hc stk
    exact (tgt_pass hb hr ▸ ihb.1 C pc _ 0 stk hB).trans ((back _).trans (ihl.1 C pc db dc stk hc))
  | foreverR _ ihb => exact dup fun C pc db dc stk hc => ihb.1 C pc _ 0 stk (forever_parts ok hc stk).1
  | foreverB _ ihb =>
    refine dup fun C pc db dc stk hc => ?_
    obtain ⟨hB, _, e⟩ := forever_parts ok hc stk
    exact e ▸ ihb.1 C pc _ 0 stk hB
  | rngEnd h0 hnext _ hO hend ihB =>
    exact dup fun C pc db dc stk hc => (rng_parts h0 hnext hO (fun i hi => (ihB i hi).1) ok stk hc).1 hend
  | rngBrk h0 hnext _ hO hs _ ihB ihl =>
    refine dup fun C pc db dc stk hc => ?_
    obtain ⟨_, last, e⟩ := rng_parts h0 hnext hO (fun i hi => (ihB i hi).1) ok stk hc
    exact e ▸ last _ _ _ hs ihl.1
  | rngRet h0 hnext _ hO hs _ ihB ihl =>
    exact dup fun C pc db dc stk hc => (rng_parts h0 hnext hO (fun i hi => (ihB i hi).1) ok stk hc).2.1 _ _ _ hs ihl.1

theorem compile_correct (ok : LeavesOK M L) {s : Stmt} {st : σ} {o : Out} {st' : σ} (h : Exec M s st o st') :
    ∀ (C : List Instr) (pc db dc : Nat) (stk : List Bool), CodeAt C pc (rw db dc (compile L s)) →
      Star M L C (pc, stk, st) (tgt C.length pc (compile L s).length db dc o, stk, st') ∧
      Star M L C (entry2 L pc s, stk, st) (tgt C.length pc (compile L s).length db dc o, stk, st') :=
  fun C pc db dc stk hc => ⟨(compile_runs ok h).1 C pc db dc stk hc, (compile_runs ok h).2 C pc db dc stk hc⟩

/-- **C06 (core).** A whole function body (no enclosing loop: a stray `break`/`continue` does not
    occur in valid Go) runs from its first instruction to just past its last one — whether it falls
    off its end or executes a `return` anywhere, at any depth of loops and switches — and produces
    the state Go's semantics prescribes. -/
theorem body_correct (ok : LeavesOK M L) {s : Stmt} {st st' : σ} {o : Out} (h : Exec M s st o st')
    (ho : o = .normal ∨ o = .ret) (stk : List Bool) :
    Star M L (rw 0 0 (compile L s)) (0, stk, st) ((compile L s).length, stk, st') := by
  have := (compile_runs ok h).1 (rw 0 0 (compile L s)) 0 0 0 stk ⟨[], [], by simp, rfl⟩
  rcases ho with rfl | rfl
  · simpa [tgt, offs] using this
  · simpa [tgt] using this

/-! ### non-vacuity: a nest with break and continue satisfies the hypotheses and runs as Go says -/

/-- state = the trace of executed leaves; `c 0` holds once more than two leaves ran, the other
    conditions hold while fewer than ten ran; the action 0 is the empty statement -/
def demoSem : Sem (List Nat) :=
  { act := fun n s => if n = 0 then s else s ++ [n],
    cval := fun k s => if k = 0 then decide (s.length > 2) else decide (s.length < 10),
    ceff := fun k s => s ++ [100 + k] }

def demoLeaves : Leaves :=
  { act := fun n => if n = 0 then [] else [⟨"PUSH", n, 0, 0, 0⟩, ⟨"FASTCALL", 7, 1, 0, 0⟩],
    cnd := fun k => [⟨"PUSH", k, 0, 0, 0⟩, ⟨"FASTCALL", 8, 1, 1, 0⟩] }

example : LeavesOK demoSem demoLeaves :=
  { act_noPH n := by simp only [demoLeaves]; split <;> simp [isPH]
    cnd_noPH c := by simp [demoLeaves, isPH]
    cnd_ne c := nofun
    act_empty n h s := by
      simp [demoLeaves] at h
      simp [demoSem, h] }

/-- `for c(3) { if c(0) { break } ; t(5) }`: first iteration runs t(5), the second breaks -/
example : Exec demoSem (.loop 3 (.seq (.ift 0 .brk) (.act 5)) 0) [] .normal [103, 100, 5, 103, 100] :=
  .loopT (by decide) (.seqN (.iftF (by decide)) .act) (by decide) (by decide)
    (.loopB (by decide) (.seqX (.iftT (by decide) .brk) (by decide)))

/-- `for c(3) { switch { case c(0): return t(9) ; default: t(5) } }`: the first iteration takes the
    default clause, the second returns from inside the switch inside the loop -/
example : Exec demoSem (.loop 3 (.swc 0 (.ret 9) (.swd (.act 5))) 0) [] .ret [103, 100, 5, 103, 100, 9] :=
  .loopT (by decide) (.swcF (by decide) (.swdN .act (by decide))) (by decide) (by decide)
    (.loopR (by decide) (.swcT (by decide) .ret (by decide)))

/-- a `range` demo: the state carries the trace and what is left of the one live iterator -/
def demoSemR : Sem (List Nat × Nat) :=
  { act := fun n s => if n = 0 then s else (s.1 ++ [n], s.2),
    cval := fun k s => if k = 0 then decide (s.1.length > 2) else decide (s.1.length < 10),
    ceff := fun k s => (s.1 ++ [100 + k], s.2),
    rinit := fun _ s => (s.1, 3),
    rnext := fun _ _ s => if s.2 = 0 then none else some (s.1 ++ [200 + s.2], s.2 - 1),
    rdone := fun _ s => s }

/-- `for … range <3 items> { if c(0) { break }; t(5) }`: two full passes, the third breaks
    (the item leaf 0 is the empty code here; `c(0)` holds once more than two leaves ran) -/
example : Exec demoSemR (.rng 1 0 0 (.seq (.ift 0 .brk) (.act 5))) ([], 0) .normal
    ([203, 100, 5, 202, 100], 1) := by
  refine Exec.rngBrk (n := 1)
    (S := fun i => if i = 0 then ([], 3) else ([203, 100, 5], 2))
    (A := fun _ => ([203], 2)) (O := fun _ => .normal) (a := ([203, 100, 5, 202], 1))
    rfl ?_ ?_ (fun _ _ => ⟨by decide, by decide⟩) rfl (.seqX (.iftT (by decide) .brk) (by decide))
  all_goals
    intro i hi
    obtain rfl := Nat.lt_one_iff.1 hi
  · rfl
  · exact .seqN (.iftF (by decide)) .act

end Goat.Props.C06

#print axioms Goat.Props.C06.compile_correct
#print axioms Goat.Props.C06.body_correct
