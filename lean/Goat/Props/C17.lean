import Goat.Model.Reload
import Goat.Lemmas.Resolve
/-!
# C17 — reloading swaps code in place and keeps state

Over Model/Reload.lean: function objects live in cells, the table of globals and the method tables map
names to cell addresses, a captured function value is an address, and re-declaring a name overwrites
its cell. Bodies are opaque tags (`β`); field layout changes between versions are outside the model.
The last section is about what a reloaded body's identifiers mean (Lemmas/Resolve.lean).
-/
namespace Goat.Props.C17
open Goat.Reload

variable {β V : Type}

theorem lookup_cons {α : Type} (k : String) (v : α) (t : List (String × α)) (n : String) :
    lookup ((k, v) :: t) n = if k = n then some v else lookup t n := by
  unfold lookup
  by_cases h : k = n <;> simp [h]

theorem lookup_append {α : Type} (t u : List (String × α)) (n : String) :
    lookup (t ++ u) n = (lookup t n).or (lookup u n) := by
  unfold lookup
  rw [List.find?_append, Option.map_or]

theorem define_of_some {s : St β V} {n : String} {a : Nat} (b : β) (h : lookup s.tab n = some a) :
    define s n b = { s with cells := s.cells.set a b } := by
  simp only [define, h]

theorem define_of_none {s : St β V} {n : String} (b : β) (h : lookup s.tab n = none) :
    define s n b = { s with cells := s.cells ++ [b], tab := s.tab ++ [(n, s.cells.length)] } := by
  simp only [define, h]

theorem lookup_alloc (t : List (String × Nat)) (n m : String) (a : Nat) (h : lookup t n = none) :
    lookup (t ++ [(n, a)]) m = if m = n then some a else lookup t m := by
  rw [lookup_append, lookup_cons]
  split
  · subst m; rw [h, if_pos rfl]; rfl
  · rw [if_neg (Ne.symm ‹_›)]; exact Option.or_none

/-- **address stability**: a name keeps its cell for ever — captured function values stay valid -/
theorem define_addr_stable (s : St β V) (n m : String) (b : β) (a : Nat)
    (h : lookup s.tab m = some a) : lookup (define s n b).tab m = some a := by
  cases hl : lookup s.tab n with
  | some => rw [define_of_some b hl]; exact h
  | none => rw [define_of_none b hl, lookup_append, h]; rfl

theorem define_wf (s : St β V) (n : String) (b : β) (hw : WF s) : WF (define s n b) := by
  cases hl : lookup s.tab n with
  | some =>
    rw [define_of_some b hl]
    exact ⟨fun m a h => Nat.lt_of_lt_of_eq (hw.inRange m a h) List.length_set.symm, hw.inj⟩
  | none =>
    rw [define_of_none b hl]
    refine ⟨fun m a h => ?_, fun m k a h1 h2 => ?_⟩
    · rw [lookup_alloc _ n m _ hl] at h
      rw [List.length_append]
      split at h
      · cases h; exact Nat.lt_succ_self _
      · exact Nat.lt_succ_of_lt (hw.inRange m a h)
    · rw [lookup_alloc _ n _ _ hl] at h1 h2
      split at h1 <;> split at h2
      · subst m k; rfl
      · cases h1; exact absurd (hw.inRange k _ h2) (Nat.lt_irrefl _)
      · cases h2; exact absurd (hw.inRange m _ h1) (Nat.lt_irrefl _)
      · exact hw.inj m k a h1 h2

/-- `define` is an update of the map from names to code -/
theorem callName_define (s : St β V) (hw : WF s) (n m : String) (b : β) :
    callName (define s n b) m = if m = n then some b else callName s m := by
  unfold callName
  cases hl : lookup s.tab n with
  | some a' =>
    rw [define_of_some b hl]
    split
    · subst m; rw [hl]; exact List.getElem?_set_self (hw.inRange n a' hl)
    · cases hm : lookup s.tab m with
      | none => rfl
      | some a => exact List.getElem?_set_ne fun (e : a' = a) => ‹m ≠ n› (hw.inj m n a hm (e ▸ hl))
  | none =>
    rw [define_of_none b hl, lookup_alloc _ n m _ hl]
    split
    · exact List.getElem?_concat_length
    · cases hm : lookup s.tab m with
      | none => rfl
      | some a => exact List.getElem?_append_left (hw.inRange m a hm)

theorem callRef_eq_callName (s : St β V) (n : String) (a : Nat) (h : lookup s.tab n = some a) :
    callRef s a = callName s n := by
  rw [callName, h]; rfl

theorem loadFuncs_cons (s : St β V) (f : String × β) (fs : List (String × β)) :
    loadFuncs s (f :: fs) = loadFuncs (define s f.1 f.2) fs := rfl

theorem loadFuncs_wf (s : St β V) (fs : List (String × β)) (hw : WF s) : WF (loadFuncs s fs) :=
  List.foldlRecOn fs _ hw (fun s hw f _ => define_wf s f.1 f.2 hw)

theorem loadFuncs_addr_stable (s : St β V) (fs : List (String × β)) (m : String) (a : Nat)
    (h : lookup s.tab m = some a) : lookup (loadFuncs s fs).tab m = some a := by
  induction fs generalizing s with
  | nil => exact h
  | cons f fs ih => exact ih _ (define_addr_stable s f.1 m f.2 a h)

theorem callName_loadFuncs_other (s : St β V) (fs : List (String × β)) (hw : WF s) (m : String)
    (hn : ∀ f ∈ fs, f.1 ≠ m) : callName (loadFuncs s fs) m = callName s m := by
  induction fs generalizing s with
  | nil => rfl
  | cons f fs ih =>
    rw [loadFuncs_cons, ih _ (define_wf s f.1 f.2 hw) fun g hg => hn g (List.mem_cons_of_mem _ hg),
      callName_define s hw, if_neg (hn f List.mem_cons_self).symm]

theorem callName_loadFuncs_mem (s : St β V) (fs : List (String × β)) (hw : WF s)
    (hd : fs.Pairwise (fun f g => f.1 ≠ g.1)) (n : String) (b : β) (hin : (n, b) ∈ fs) :
    callName (loadFuncs s fs) n = some b := by
  induction fs generalizing s with
  | nil => cases hin
  | cons f fs ih =>
    obtain ⟨hf, hd⟩ := List.pairwise_cons.mp hd
    rw [loadFuncs_cons]
    rcases List.mem_cons.mp hin with rfl | hin
    · rw [callName_loadFuncs_other _ fs (define_wf s n b hw) n fun g hg => (hf g hg).symm,
        callName_define s hw, if_pos rfl]
    · exact ih _ (define_wf s f.1 f.2 hw) hd hin

/-- **reload_swaps_code.** After loading a package version whose functions have pairwise distinct
    names, every function `n` of that version runs its new body `b` — when called by name and
    when called through *any* function value captured earlier (address `a`), whether it sits in a
    variable, a struct field or a bound method. -/
theorem reload_swaps_code (s : St β V) (fs : List (String × β)) (hw : WF s)
    (hd : fs.Pairwise (fun f g => f.1 ≠ g.1)) (n : String) (b : β) (hin : (n, b) ∈ fs) :
    callName (loadFuncs s fs) n = some b ∧
    ∀ a, lookup s.tab n = some a → callRef (loadFuncs s fs) a = some b :=
  have h := callName_loadFuncs_mem s fs hw hd n b hin
  ⟨h, fun a ha => (callRef_eq_callName _ n a (loadFuncs_addr_stable s fs n a ha)).trans h⟩

/-- functions that a version does not mention keep their code -/
theorem reload_keeps_unmentioned (s : St β V) (fs : List (String × β)) (hw : WF s) (m : String) (a : Nat)
    (hm : lookup s.tab m = some a) (hn : ∀ f ∈ fs, f.1 ≠ m) :
    callRef (loadFuncs s fs) a = callRef s a := by
  rw [callRef_eq_callName _ m a (loadFuncs_addr_stable s fs m a hm), callRef_eq_callName s m a hm,
    callName_loadFuncs_other s fs hw m hn]

theorem lookup_setVar (vars : List (String × V)) (n m : String) (v : V) :
    lookup (setVar vars n v) m = if m = n then some v else lookup vars m := by
  rw [setVar, lookup_cons]
  by_cases h : m = n
  · rw [if_pos h, if_pos h.symm]
  · rw [if_neg h, if_neg (Ne.symm h)]
    unfold lookup
    rw [List.find?_filter]
    congr 2
    funext a
    by_cases ha : a.1 = m <;> simp [ha, h]

/-- a variable declared without an initialiser keeps its current value -/
theorem declZero_keeps (s : St β V) (n : String) (zero cur : V) (h : lookup s.vars n = some cur) :
    lookup (declZero s n zero).vars n = some cur := by
  simp [declZero, h]

theorem declZero_fresh (s : St β V) (n : String) (zero : V) (h : lookup s.vars n = none) :
    lookup (declZero s n zero).vars n = some zero := by
  simp [declZero, h, lookup_setVar]

/-- a variable declared with an initialiser is re-initialised -/
theorem declInit_resets (s : St β V) (n : String) (v : V) : lookup (declInit s n v).vars n = some v :=
  (lookup_setVar ..).trans (if_pos rfl)

theorem declInit_other (s : St β V) (n m : String) (v : V) (h : m ≠ n) :
    lookup (declInit s n v).vars m = lookup s.vars m :=
  (lookup_setVar ..).trans (if_neg h)

theorem define_same (s : St β V) (n : String) (b : β) (h : callName s n = some b) : define s n b = s := by
  unfold callName at h
  cases hl : lookup s.tab n with
  | none => rw [hl] at h; cases h
  | some =>
    rw [hl] at h
    obtain ⟨hlt, e⟩ := List.getElem?_eq_some_iff.mp h
    rw [define_of_some b hl, ← e, List.set_getElem_self]

/-- **reload_unchanged.** Loading the same version a second time changes nothing: every function
    keeps its cell and its code. -/
theorem reload_unchanged (s : St β V) (fs : List (String × β)) (hw : WF s)
    (hd : fs.Pairwise (fun f g => f.1 ≠ g.1)) :
    loadFuncs (loadFuncs s fs) fs = loadFuncs s fs := by
  have key : ∀ (S : St β V) (gs : List (String × β)), (∀ g ∈ gs, callName S g.1 = some g.2) → loadFuncs S gs = S := by
    intro S gs h
    induction gs with
    | nil => rfl
    | cons g gs ih =>
      rw [loadFuncs_cons, define_same S g.1 g.2 (h g List.mem_cons_self)]
      exact ih fun x hx => h x (List.mem_cons_of_mem _ hx)
  exact key _ _ fun g hg => callName_loadFuncs_mem s fs hw hd g.1 g.2 hg

/-! ### non-vacuity -/

def s0 : St String Nat := { cells := [], tab := [], vars := [] }
def v1 : Pkg String Nat := { funcs := [("F", "F@1"), ("T.M", "M@1")], zeros := [("Count", 0)], inits := [("Mode", 10)] }
def v2 : Pkg String Nat := { funcs := [("F", "F@2"), ("T.M", "M@2"), ("G", "G@2")], zeros := [("Count", 0)], inits := [("Mode", 20)] }

-- capture F (address 0) under v1, bump Count to 5, change Mode to 11, reload v2
example :
    let s1 := load s0 v1
    let s1' := { s1 with vars := setVar (setVar s1.vars "Count" 5) "Mode" 11 }
    let s2 := load s1' v2
    lookup s1.tab "F" = some 0 ∧ callRef s2 0 = some "F@2" ∧ callName s2 "T.M" = some "M@2" ∧
    lookup s2.vars "Count" = some 5 ∧ lookup s2.vars "Mode" = some 20 := by decide +kernel

/-! ### a recompiled body sees only its own types (compiler.go `enterFunc`) -/

open Goat.Resolve in
/-- **recompile_forgets.** Whatever was compiled before - any history of function, method, literal and init
    compilations (also of earlier versions of f itself) and of package-level definitions - once a body of f
    has been compiled, the table of globals holds under f's name exactly the types that THIS body declares:
    a reloaded function never resolves a name to a type of the version it replaces. -/
theorem recompile_forgets (h : List Ev) (hok : ∀ e ∈ h, e.ok) (f : String) (hf : f ≠ "") (tys : List String)
    (ty : String) : Key.ltype f ty ∈ (step (run h) (.compile f tys)).keys ↔ ty ∈ tys :=
  Goat.Resolve.recompile_forgets h hok f hf tys ty

open Goat.Resolve in
/-- **resolve_history_independent.** Two histories that define the same package-level names and builtins
    give the same resolution of every identifier in the body of a function compiled after them: what a
    (re)loaded body means does not depend on which versions were loaded before. -/
theorem resolve_history_independent (h1 h2 : List Ev) (ok1 : ∀ e ∈ h1, e.ok) (ok2 : ∀ e ∈ h2, e.ok)
    (same : ∀ k, (∀ f ty, k ≠ .ltype f ty) → (k ∈ (run h1).keys ↔ k ∈ (run h2).keys))
    (f : String) (hf : f ≠ "") (tys : List String) (locals : List String) (x : String) :
    resolve (step (run h1) (.compile f tys)) { fn := f, inScope := true, locals := locals } x
      = resolve (step (run h2) (.compile f tys)) { fn := f, inScope := true, locals := locals } x :=
  Goat.Resolve.resolve_history_independent h1 h2 ok1 ok2 same f hf tys locals x

example : Goat.Resolve.Key.ltype "main.f" "acc" ∈ (Goat.Resolve.run Goat.Resolve.hist).keys := by decide
example : Goat.Resolve.Key.ltype "main.f" "acc" ∉
    (Goat.Resolve.step (Goat.Resolve.run Goat.Resolve.hist) (.compile "main.f" [])).keys := by decide

end Goat.Props.C17

#print axioms Goat.Props.C17.reload_swaps_code
#print axioms Goat.Props.C17.reload_keeps_unmentioned
#print axioms Goat.Props.C17.reload_unchanged
#print axioms Goat.Props.C17.define_addr_stable
#print axioms Goat.Props.C17.loadFuncs_wf
#print axioms Goat.Props.C17.declZero_keeps
#print axioms Goat.Props.C17.declZero_fresh
#print axioms Goat.Props.C17.declInit_resets
#print axioms Goat.Props.C17.declInit_other
#print axioms Goat.Props.C17.recompile_forgets
#print axioms Goat.Props.C17.resolve_history_independent
