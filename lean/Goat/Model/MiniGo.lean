import Goat.Spec.CF
/-!
# MiniGo: an end-to-end fragment (expressions, assignment, if / else, for, break, continue)

Source programs are trees (`Expr`, assignments, comparisons, `CF.Stmt` for control flow); the
compiler emits the instruction lists compiler.go emits with the optimizer off (operands left to
right, then the operator; the value, then LOCALSET; comparison then the conditional jump of the
control-flow scheme); the machine runs instructions as do.go does. Arithmetic and comparison
primitives are parameters (`Prims`): their agreement with Go on every width is C04's subject.
`none` is a run-time panic.
-/
namespace Goat.MiniGo
open Goat.Peephole Goat.CF

inductive BinOp | add | sub | mul | div | mod
  deriving DecidableEq, Repr
inductive CmpOp | lt | lte | gt | gte | eq | neq
  deriving DecidableEq, Repr

def BinOp.code : BinOp → String
  | .add => "ADD" | .sub => "SUB" | .mul => "MUL" | .div => "DIV" | .mod => "MOD"
def CmpOp.code : CmpOp → String
  | .lt => "LT" | .lte => "LTE" | .gt => "GT" | .gte => "GTE" | .eq => "EQ" | .neq => "NEQ"

inductive Expr
  | lit (k : Int)
  | loc (i : Nat)
  | bin (op : BinOp) (a b : Expr)
  deriving Repr

structure Assign where
  slot : Nat
  rhs : Expr
  deriving Repr

structure Cond where
  op : CmpOp
  a : Expr
  b : Expr
  deriving Repr

structure Prims (V : Type) where
  untyped : Int → V                       -- PUSH k: an untyped constant
  bin : BinOp → V → V → Option V          -- opAdd … (none: panic, e.g. integer division by zero)
  cmp : CmpOp → V → V → Option Bool
  assignTo : V → V → V                    -- new.assign(type of the old value)
  ofBool : Bool → V                       -- Bool(b): what a comparison pushes
  truth : V → Bool                        -- v.Bool(): what AND / OR / NOT / JUMPFALSE test

variable {V : Type}

/-! ### source semantics (Go: operands left to right) -/

def evalE (P : Prims V) (locals : List V) : Expr → Option V
  | .lit k => some (P.untyped k)
  | .loc i => locals[i]?
  | .bin op a b => do
    let x ← evalE P locals a
    let y ← evalE P locals b
    P.bin op x y

def evalAssign (P : Prims V) (locals : List V) (s : Assign) : Option (List V) := do
  let v ← evalE P locals s.rhs
  let old ← locals[s.slot]?
  pure (locals.set s.slot (P.assignTo v old))

def evalCond (P : Prims V) (locals : List V) (c : Cond) : Option Bool := do
  let x ← evalE P locals c.a
  let y ← evalE P locals c.b
  P.cmp c.op x y

/-- boolean conditions: comparisons combined with Go's short-circuit operators -/
inductive BExpr
  | cmp (c : Cond)
  | and (a b : BExpr)
  | or (a b : BExpr)
  | not (a : BExpr)
  deriving Repr

/-- Go's semantics: the right operand of `&&` / `||` is evaluated only if the left one does not
    decide the result (so its panics do not happen either) -/
def evalB (P : Prims V) (locals : List V) : BExpr → Option Bool
  | .cmp c => evalCond P locals c
  | .and a b => match evalB P locals a with
    | some true => evalB P locals b
    | r => r
  | .or a b => match evalB P locals a with
    | some false => evalB P locals b
    | r => r
  | .not a => (evalB P locals a).map (!·)

/-! ### the compiler -/

def ins (op : String) (a : Int := 0) : Instr := { op := op, a := a }

def compileE : Expr → List Instr
  | .lit k => [ins "PUSH" k]
  | .loc i => [ins "LOCALGET" i]
  | .bin op a b => compileE a ++ compileE b ++ [ins op.code]

def compileAssign (s : Assign) : List Instr := compileE s.rhs ++ [ins "LOCALSET" s.slot]
def compileCond (c : Cond) : List Instr := compileE c.a ++ compileE c.b ++ [ins c.op.code]

/-- `a && b`: a; AND len(b); b — `a || b` likewise with OR; `!a`: a; NOT -/
def compileB : BExpr → List Instr
  | .cmp c => compileCond c
  | .and a b => compileB a ++ [ins "AND" (compileB b).length] ++ compileB b
  | .or a b => compileB a ++ [ins "OR" (compileB b).length] ++ compileB b
  | .not a => compileB a ++ [ins "NOT"]

/-! ### the machine on straight-line code -/

structure St (V : Type) where
  locals : List V
  ops : List V            -- operand stack, top first

def binOfCode (s : String) : Option BinOp :=
  if s = "ADD" then some .add else if s = "SUB" then some .sub else if s = "MUL" then some .mul
  else if s = "DIV" then some .div else if s = "MOD" then some .mod else none

def cmpOfCode (s : String) : Option CmpOp :=
  if s = "LT" then some .lt else if s = "LTE" then some .lte else if s = "GT" then some .gt
  else if s = "GTE" then some .gte else if s = "EQ" then some .eq else if s = "NEQ" then some .neq else none

/-- one instruction of do.go's loop (value-producing opcodes of the fragment) -/
def step1 (P : Prims V) (i : Instr) (σ : St V) : Option (St V) :=
  if i.op = "PUSH" then some { σ with ops := P.untyped i.a :: σ.ops }
  else if i.op = "LOCALGET" then
    if i.a < 0 then none else (σ.locals[i.a.toNat]?).map fun v => { σ with ops := v :: σ.ops }
  else if i.op = "LOCALSET" then
    match σ.ops with
    | v :: rest =>
      if i.a < 0 then none
      else (σ.locals[i.a.toNat]?).map fun old => { locals := σ.locals.set i.a.toNat (P.assignTo v old), ops := rest }
    | [] => none
  else match binOfCode i.op with
    | some op =>
      match σ.ops with
      | y :: x :: rest => (P.bin op x y).map fun r => { σ with ops := r :: rest }
      | _ => none
    | none => none

def run (P : Prims V) : List Instr → St V → Option (St V)
  | [], σ => some σ
  | i :: is, σ => (step1 P i σ).bind (run P is)

/-- a condition's code: the operands, then the comparison whose boolean the following
    conditional jump consumes -/
def runCond (P : Prims V) (code : List Instr) (σ : St V) : Option (Bool × St V) :=
  match code.getLast? with
  | none => none
  | some last =>
    match cmpOfCode last.op with
    | none => none
    | some op =>
      (run P code.dropLast σ).bind fun σ' =>
        match σ'.ops with
        | y :: x :: rest => (P.cmp op x y).map fun b => (b, { σ' with ops := rest })
        | _ => none

/-- the machine on condition code: value instructions, comparisons (push `Bool(b)`), and the
    short-circuit instructions of do.go — AND: if the top is false, jump `A` instructions ahead
    leaving it on the stack, else pop it; OR dually; NOT replaces the top. Jumps only go forward,
    so the recursion is on the remaining code. -/
def runJ (P : Prims V) : List Instr → St V → Option (St V)
  | [], σ => some σ
  | i :: rest, σ =>
    if i.op = "AND" ∨ i.op = "OR" then
      match σ.ops with
      | t :: ops' =>
        if (i.op = "AND" ∧ !P.truth t) ∨ (i.op = "OR" ∧ P.truth t) then runJ P (rest.drop i.a.toNat) σ
        else runJ P rest { σ with ops := ops' }
      | [] => none
    else if i.op = "NOT" then
      match σ.ops with
      | t :: ops' => runJ P rest { σ with ops := P.ofBool (!P.truth t) :: ops' }
      | [] => none
    else match cmpOfCode i.op with
      | some op =>
        match σ.ops with
        | y :: x :: ops' => (P.cmp op x y).bind fun b => runJ P rest { σ with ops := P.ofBool b :: ops' }
        | _ => none
      | none => (step1 P i σ).bind (runJ P rest)
termination_by code => code.length
decreasing_by
  all_goals simp_wf
  all_goals (try simp only [List.length_drop]) <;> omega

/-- a condition's code followed by the conditional jump that pops the boolean -/
def runCondJ (P : Prims V) (code : List Instr) (σ : St V) : Option (Bool × St V) :=
  (runJ P code σ).bind fun σ' =>
    match σ'.ops with
    | t :: rest => some (P.truth t, { σ' with ops := rest })
    | [] => none

/-! ### programs: control flow over indexed leaves -/

structure Prog where
  acts : List Assign
  cnds : List BExpr
  body : Stmt

def leaves (p : Prog) : Leaves where
  act n := match p.acts[n]? with | some s => compileAssign s | none => []
  cnd c := match p.cnds[c]? with | some k => compileB k | none => [ins "PUSH" 0, ins "PUSH" 0, ins "EQ"]

/-- state of the control-flow level: the locals, or `none` after a panic (absorbing) -/
def sem (P : Prims V) (p : Prog) : Sem (Option (List V)) where
  act n s := match p.acts[n]? with
    | some a => s.bind fun l => evalAssign P l a
    | none => s
  cval c s := match p.cnds[c]?, s with
    | some k, some l => (evalB P l k).getD false
    | _, _ => false
  ceff c s := match p.cnds[c]?, s with
    | some k, some l => if (evalB P l k).isSome then some l else none
    | _, _ => none

def compileProg (p : Prog) : List Instr := CF.compile (leaves p) p.body

end Goat.MiniGo
