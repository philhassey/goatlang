import Goat.Model.CF
/-!
# Control flow: what Go prescribes, and the machine that runs the compiled code

Go's big-step semantics of the statement forms with `break` / `continue` / `return` signals (`Exec`)
over abstract leaf semantics (`Sem`), and the relative-jump machine of do.go (`Step`, `Star`) that
runs the code `Goat.CF.compile` emits; where control is after a statement (`tgt`).
-/
namespace Goat.CF
open Goat.Peephole

/-- what the leaves do: an action transforms the state; a condition yields a boolean and may
    transform the state too (a call in a condition) -/
structure Sem (σ : Type) where
  act : Nat → σ → σ
  cval : Nat → σ → Bool
  ceff : Nat → σ → σ
  /-- `range`: RANGE pops the item the leaf pushed and installs an iterator in the hidden slot `r`;
      ITER asks it for the next pair and stores it in the key / value slots (`some`), or finds it
      exhausted (`none`, the state is then `rdone`) -/
  rinit : Int → σ → σ := fun _ s => s
  rnext : Int → Int → σ → Option σ := fun _ _ _ => none
  rdone : Int → σ → σ := fun _ s => s

inductive Out where | normal | brk | cont | ret
  deriving DecidableEq

variable {σ : Type} (M : Sem σ)

/-- Go's semantics of the statement forms -/
inductive Exec : Stmt → σ → Out → σ → Prop where
  | act {n s} : Exec (.act n) s .normal (M.act n s)
  | seqN {a b s s1 o s2} : Exec a s .normal s1 → Exec b s1 o s2 → Exec (.seq a b) s o s2
  | seqX {a b s o s1} : Exec a s o s1 → o ≠ .normal → Exec (.seq a b) s o s1
  | iteT {c a b s o s'} : M.cval c s = true → Exec a (M.ceff c s) o s' → Exec (.ite c a b) s o s'
  | iteF {c a b s o s'} : M.cval c s = false → Exec b (M.ceff c s) o s' → Exec (.ite c a b) s o s'
  | iftT {c a s o s'} : M.cval c s = true → Exec a (M.ceff c s) o s' → Exec (.ift c a) s o s'
  | iftF {c a s} : M.cval c s = false → Exec (.ift c a) s .normal (M.ceff c s)
  | brk {s} : Exec .brk s .brk s
  | cont {s} : Exec .cont s .cont s
  | loopF {c b p s} : M.cval c s = false → Exec (.loop c b p) s .normal (M.ceff c s)
  | loopT {c b p s o s1 o3 s3} : M.cval c s = true → Exec b (M.ceff c s) o s1 → o ≠ .brk → o ≠ .ret →
      Exec (.loop c b p) (M.act p s1) o3 s3 → Exec (.loop c b p) s o3 s3
  | loopR {c b p s s1} : M.cval c s = true → Exec b (M.ceff c s) .ret s1 → Exec (.loop c b p) s .ret s1
  | loopB {c b p s s1} : M.cval c s = true → Exec b (M.ceff c s) .brk s1 → Exec (.loop c b p) s .normal s1
  | foreverT {b p s o s1 o3 s3} : Exec b s o s1 → o ≠ .brk → o ≠ .ret →
      Exec (.forever b p) (M.act p s1) o3 s3 → Exec (.forever b p) s o3 s3
  | foreverR {b p s s1} : Exec b s .ret s1 → Exec (.forever b p) s .ret s1
  | ret {n s} : Exec (.ret n) s .ret (M.act n s)
  | foreverB {b p s s1} : Exec b s .brk s1 → Exec (.forever b p) s .normal s1
  -- switch: a `break` in a clause leaves the switch; `continue` goes on to the enclosing loop
  | swdN {d s o s'} : Exec d s o s' → o ≠ .brk → Exec (.swd d) s o s'
  | swdB {d s s'} : Exec d s .brk s' → Exec (.swd d) s .normal s'
  | swcT {c a r s o s'} : M.cval c s = true → Exec a (M.ceff c s) o s' → o ≠ .brk → Exec (.swc c a r) s o s'
  | swcB {c a r s s'} : M.cval c s = true → Exec a (M.ceff c s) .brk s' → Exec (.swc c a r) s .normal s'
  | swcF {c a r s o s'} : M.cval c s = false → Exec r (M.ceff c s) o s' → Exec (.swc c a r) s o s'
  -- range: the item is evaluated once; `S i` is the state before the i-th request to the iterator,
  -- `A i` the state with the i-th pair assigned; `n` full passes (each ending normally or by
  -- `continue`) are followed by exhaustion, by a pass that breaks, or by one that returns
  | rngEnd {r kv it b s} {n : Nat} {A S : Nat → σ} {O : Nat → Out} :
      S 0 = M.rinit r (M.act it s) →
      (∀ i, i < n → M.rnext r kv (S i) = some (A i)) →
      (∀ i, i < n → Exec b (A i) (O i) (S (i+1))) →
      (∀ i, i < n → O i ≠ .brk ∧ O i ≠ .ret) →
      M.rnext r kv (S n) = none →
      Exec (.rng r kv it b) s .normal (M.rdone r (S n))
  | rngBrk {r kv it b s a s'} {n : Nat} {A S : Nat → σ} {O : Nat → Out} :
      S 0 = M.rinit r (M.act it s) →
      (∀ i, i < n → M.rnext r kv (S i) = some (A i)) →
      (∀ i, i < n → Exec b (A i) (O i) (S (i+1))) →
      (∀ i, i < n → O i ≠ .brk ∧ O i ≠ .ret) →
      M.rnext r kv (S n) = some a → Exec b a .brk s' →
      Exec (.rng r kv it b) s .normal s'
  | rngRet {r kv it b s a s'} {n : Nat} {A S : Nat → σ} {O : Nat → Out} :
      S 0 = M.rinit r (M.act it s) →
      (∀ i, i < n → M.rnext r kv (S i) = some (A i)) →
      (∀ i, i < n → Exec b (A i) (O i) (S (i+1))) →
      (∀ i, i < n → O i ≠ .brk ∧ O i ≠ .ret) →
      M.rnext r kv (S n) = some a → Exec b a .ret s' →
      Exec (.rng r kv it b) s .ret s'

abbrev Cfg (σ : Type) := Nat × List Bool × σ

def CodeAt (C : List Instr) (pc : Nat) (F : List Instr) : Prop :=
  ∃ X Y, C = X ++ F ++ Y ∧ X.length = pc

variable (L : Leaves)

/-- the machine: relative jumps as in do.go (`N += A` then the loop's `N++`); a leaf's code runs as
    one macro step (a non-empty one: an empty leaf would otherwise step at every pc). Where the codes
    of two leaves overlap the relation has more than one successor: the theorems say that the run Go
    prescribes exists, not that it is the only one. -/
inductive Step (C : List Instr) : Cfg σ → Cfg σ → Prop where
  | act {pc stk s n} : L.act n ≠ [] → CodeAt C pc (L.act n) →
      Step C (pc, stk, s) (pc + (L.act n).length, stk, M.act n s)
  | cnd {pc stk s c} : L.cnd c ≠ [] → CodeAt C pc (L.cnd c) →
      Step C (pc, stk, s) (pc + (L.cnd c).length, M.cval c s :: stk, M.ceff c s)
  | jmp {pc : Nat} {stk s i} {tgt : Nat} : C[pc]? = some i → i.op = "JUMP" →
      (tgt : Int) = (pc : Int) + i.a + 1 → Step C (pc, stk, s) (tgt, stk, s)
  | jfT {pc stk s i} : C[pc]? = some i → i.op = "JUMPFALSE" → Step C (pc, true :: stk, s) (pc + 1, stk, s)
  | jfF {pc : Nat} {stk s i} {tgt : Nat} : C[pc]? = some i → i.op = "JUMPFALSE" →
      (tgt : Int) = (pc : Int) + i.a + 1 → Step C (pc, false :: stk, s) (tgt, stk, s)
  | jtF {pc stk s i} : C[pc]? = some i → i.op = "JUMPTRUE" → Step C (pc, false :: stk, s) (pc + 1, stk, s)
  | jtT {pc : Nat} {stk s i} {tgt : Nat} : C[pc]? = some i → i.op = "JUMPTRUE" →
      (tgt : Int) = (pc : Int) + i.a + 1 → Step C (pc, true :: stk, s) (tgt, stk, s)
  | ret {pc stk s i} : C[pc]? = some i → i.op = "RETURN" → Step C (pc, stk, s) (C.length, stk, s)
  | range {pc : Nat} {stk s i} {tgt : Nat} : C[pc]? = some i → i.op = "RANGE" →
      (tgt : Int) = (pc : Int) + i.b + 1 → Step C (pc, stk, s) (tgt, stk, M.rinit i.a s)
  | iterT {pc : Nat} {stk s s1 i} {tgt : Nat} : C[pc]? = some i → i.op = "ITER" → M.rnext i.a i.b s = some s1 →
      (tgt : Int) = (pc : Int) + i.c + 1 → Step C (pc, stk, s) (tgt, stk, s1)
  | iterF {pc stk s i} : C[pc]? = some i → i.op = "ITER" → M.rnext i.a i.b s = none →
      Step C (pc, stk, s) (pc + 1, stk, M.rdone i.a s)

inductive Star (C : List Instr) : Cfg σ → Cfg σ → Prop where
  | refl {x} : Star C x x
  | step {x y z} : Step M L C x y → Star C y z → Star C x z

def isPH (i : Instr) : Bool := i.op == "BREAK" || i.op == "CONTINUE"

/-- leaves are straight-line code without placeholders, conditions are not empty, and an empty
    action does nothing -/
structure LeavesOK : Prop where
  act_noPH : ∀ n, ∀ i ∈ L.act n, isPH i = false
  cnd_noPH : ∀ c, ∀ i ∈ L.cnd c, isPH i = false
  cnd_ne : ∀ c, L.cnd c ≠ []
  act_empty : ∀ n, L.act n = [] → ∀ s, M.act n s = s

def offs (db dc : Nat) : Out → Nat
  | .normal => 0 | .brk => db | .cont => dc | .ret => 0

/-- where control is after a statement: just past its code, at the enclosing loop's break or
    continue target, or — after `return` — past the end of the function's code (the frame ends) -/
def tgt (clen pc len db dc : Nat) : Out → Nat
  | .ret => clen
  | o => pc + len + offs db dc o

/-- the re-entry point of a loop iteration: where the condition is tested -/
def entry2 (L : Leaves) (pc : Nat) : Stmt → Nat
  | .loop _ b p => pc + 1 + (compile L b).length + (L.act p).length
  | _ => pc

end Goat.CF
