import Goat.Model.Pratt
/-!
# The Pratt parser inverts the precedence printer (all expression sizes, all nesting depths)

`render T m e` prints `e` with exactly the parentheses a grammar with binding powers `T` needs
when `e` stands in a context that requires binding power `m` (plus every explicit `paren` node).
`parse_render` shows that `parseExpr` reads this text back as `fold e` (= `e` with redundant
parentheses dropped and `-<literal>` folded, which is what `negateNud` does). The second half
relates two tables: under an order isomorphism of binding powers (`isoB`) they print alike
(`render_iso`), which is how C05 passes from Go's table to the regenerated one.
-/
namespace Goat.Pratt

variable (T : Table)

/-- side conditions on the table, all decidable facts about the generated table -/
structure Table.OK : Prop where
  bin_pos : ∀ s bp, T.lbp? s = some bp → T.parenBP < bp
  bin_le_pre : ∀ s bp p pb, T.lbp? s = some bp → T.pre? p = some pb → bp ≤ pb

def headLbp : List Tok → Nat
  | Tok.sym s :: _ => T.lbp s
  | _ => 0

/-- source expressions: operators known to the table, literals unsigned -/
def WF : Expr → Prop
  | .name _ => True
  | .int neg _ => neg = false
  | .un op e => (T.pre? op).isSome ∧ WF e
  | .bin op l r => (T.lbp? op).isSome ∧ WF l ∧ WF r
  | .paren e => WF e

def render : Nat → Expr → List Tok
  | _, .name s => [Tok.name s]
  | _, .int _ n => [Tok.int n]
  | _, .un op e => Tok.sym op :: render ((T.pre? op).getD 0 + 1) e
  | m, .bin op l r =>
    if m ≤ T.lbp op then render (T.lbp op) l ++ Tok.sym op :: render (T.lbp op + 1) r
    else Tok.lp :: (render (T.lbp op) l ++ Tok.sym op :: render (T.lbp op + 1) r) ++ [Tok.rp]
  | _, .paren e => Tok.lp :: render (T.parenBP + 1) e ++ [Tok.rp]

/-- what the parser builds: redundant parentheses vanish, `-<literal>` folds -/
def fold : Expr → Expr
  | .name s => .name s
  | .int neg n => .int neg n
  | .un op e => mkUn op (fold e)
  | .bin op l r => .bin op (fold l) (fold r)
  | .paren e => fold e

theorem Table.lbp_eq {T : Table} {s bp} (h : T.lbp? s = some bp) : T.lbp s = bp := by
  simp [Table.lbp, h]

/-- `p f` holds for every sufficiently large fuel `f` -/
def Ev (p : Nat → Prop) : Prop := ∃ f, ∀ f', f ≤ f' → p f'

theorem Ev.succ {p : Nat → Prop} (h : Ev fun f => p (f + 1)) : Ev p :=
  let ⟨f, h⟩ := h
  ⟨f + 1, fun
    | 0, hle => absurd hle (Nat.not_succ_le_zero f)
    | f' + 1, hle => h f' (Nat.le_of_succ_le_succ hle)⟩

theorem Ev.and {p q : Nat → Prop} (hp : Ev p) (hq : Ev q) : Ev fun f => p f ∧ q f :=
  let ⟨a, hp⟩ := hp; let ⟨b, hq⟩ := hq
  ⟨max a b, fun f h => ⟨hp f (Nat.le_trans (Nat.le_max_left ..) h), hq f (Nat.le_trans (Nat.le_max_right ..) h)⟩⟩

theorem Ev.mono {p q : Nat → Prop} (h : Ev p) (hpq : ∀ f, p f → q f) : Ev q :=
  let ⟨f, h⟩ := h; ⟨f, fun f' hle => hpq f' (h f' hle)⟩

/-- `parseExpr` / `loop` return `r` when given enough fuel. The lemmas up to `Loops.led` read the
    clauses of the two functions on these; they are the only place where fuel is mentioned. -/
def Parses (c : Nat) (ts : List Tok) (r : Expr × List Tok) : Prop := Ev fun f => parseExpr T f c ts = some r
def Loops (c : Nat) (l : Expr) (ts : List Tok) (r : Expr × List Tok) : Prop := Ev fun f => loop T f c l ts = some r

theorem Loops.stop {c e X} (h : headLbp T X ≤ c) : Loops T c e X (e, X) := by
  refine Ev.succ ⟨0, fun f _ => ?_⟩
  unfold loop
  split
  · split
    · next hb => exact if_neg (Nat.not_lt.mpr (Table.lbp_eq hb ▸ h))
    · rfl
  · rfl

theorem Parses.name {c s ts r} (h : Loops T c (.name s) ts r) : Parses T c (Tok.name s :: ts) r :=
  Ev.succ h

theorem Parses.int {c n ts r} (h : Loops T c (.int false n) ts r) : Parses T c (Tok.int n :: ts) r :=
  Ev.succ h

theorem Parses.lp {c Y e Z r} (h1 : Parses T T.parenBP Y (e, Tok.rp :: Z)) (h : Loops T c e Z r) :
    Parses T c (Tok.lp :: Y) r :=
  Ev.succ ((h1.and h).mono fun f ⟨h1, h⟩ => by rw [parseExpr, h1]; exact h)

theorem Parses.pre {c s bp Y e Z r} (hs : T.pre? s = some bp) (h1 : Parses T bp Y (e, Z))
    (h : Loops T c (mkUn s e) Z r) : Parses T c (Tok.sym s :: Y) r :=
  Ev.succ ((h1.and h).mono fun f ⟨h1, h⟩ => by rw [parseExpr]; simp only [hs, h1]; exact h)

theorem Loops.led {c s bp l Y e Z r} (hs : T.lbp? s = some bp) (hc : c < bp) (h1 : Parses T bp Y (e, Z))
    (h : Loops T c (.bin s l e) Z r) : Loops T c l (Tok.sym s :: Y) r :=
  Ev.succ ((h1.and h).mono fun f ⟨h1, h⟩ => by rw [loop]; simp only [hs, if_pos hc, h1]; exact h)

/-- the induction statement: reading `e`'s text and going on with the led loop is the led loop
    going on with `fold e` as its left operand -/
def Reads (e : Expr) : Prop :=
  ∀ m c X r, c < m → headLbp T X ≤ m → Loops T c (fold e) X r → Parses T c (render T m e ++ X) r

theorem Reads.stop {e} (h : Reads T e) {c X} (hX : headLbp T X ≤ c) :
    Parses T c (render T (c+1) e ++ X) (fold e, X) :=
  h _ _ _ _ (Nat.lt_succ_self c) (Nat.le_succ_of_le hX) (Loops.stop T hX)

theorem bin_bare {s bp l r} (hs : T.lbp? s = some bp) (hl : Reads T l) (hr : Reads T r) {c X res}
    (hc : c < bp) (hX : headLbp T X ≤ bp) (h : Loops T c (.bin s (fold l) (fold r)) X res) :
    Parses T c (render T bp l ++ Tok.sym s :: (render T (bp + 1) r ++ X)) res :=
  hl _ _ _ _ hc (Nat.le_of_eq (Table.lbp_eq hs)) (Loops.led T hs hc (hr.stop T hX) h)

theorem headLbp_le_pre (hT : T.OK) {p pb} (hp : T.pre? p = some pb) (X : List Tok) : headLbp T X ≤ pb := by
  unfold headLbp
  split
  · next s _ =>
    cases hb : T.lbp? s with
    | none => simp [Table.lbp, hb]
    | some bp => exact Table.lbp_eq hb ▸ hT.bin_le_pre _ _ _ _ hb hp
  · exact Nat.zero_le _

theorem parse_render (hT : T.OK) (e : Expr) : WF T e → Reads T e := by
  induction e with
  | name s => intro _ m c X r _ _ h; exact Parses.name T h
  | int neg n => intro hw m c X r _ _ h; cases hw; exact Parses.int T h
  | un op e ih =>
    intro ⟨hop, hwe⟩ m c X r _ _ h
    obtain ⟨pb, hpb⟩ := Option.isSome_iff_exists.mp hop
    simpa [render, hpb] using Parses.pre T hpb ((ih hwe).stop T (headLbp_le_pre T hT hpb X)) h
  | bin s l r ihl ihr =>
    intro ⟨hop, hwl, hwr⟩ m c X res hc hX h
    obtain ⟨bp, hbp⟩ := Option.isSome_iff_exists.mp hop
    simp only [render, Table.lbp_eq hbp]
    split
    · simpa using bin_bare T hbp (ihl hwl) (ihr hwr) (by omega) (by omega) h
    · simpa using Parses.lp T (bin_bare T hbp (ihl hwl) (ihr hwr) (hT.bin_pos _ _ hbp)
        (X := Tok.rp :: X) (Nat.zero_le _) (Loops.stop T (Nat.zero_le _))) h
  | paren e ih =>
    intro hw m c X r _ _ h
    simpa [render] using Parses.lp T ((ih hw).stop T (X := Tok.rp :: X) (Nat.zero_le _)) h

/-- Top level: parsing the rendering of a source expression `e` in a context of binding power
    `c`, followed by anything that does not continue the expression, yields `fold e` and leaves
    the follower untouched — for every sufficiently large fuel. -/
theorem pratt_inverts_render (hT : T.OK) (e : Expr) (hw : WF T e) (c : Nat) (X : List Tok)
    (hX : headLbp T X ≤ c) :
    ∃ f, ∀ f', f ≤ f' → parseExpr T f' c (render T (c+1) e ++ X) = some (fold e, X) :=
  (parse_render T hT e hw).stop T hX

theorem mem_of_lookup {l : List (String × Nat)} {s : String} {bp : Nat}
    (h : l.lookup s = some bp) : (s, bp) ∈ l := by
  obtain ⟨l₁, l₂, rfl, _⟩ := List.lookup_eq_some_iff.mp h
  simp

/-- Boolean form of `Table.OK`, checked by `decide` on the generated table -/
def Table.okB (T : Table) : Bool :=
  T.bin.all (fun p => T.parenBP < p.2) && T.bin.all (fun p => T.pre.all (fun q => p.2 ≤ q.2))

theorem Table.okB_sound (T : Table) (h : T.okB = true) : T.OK := by
  simp only [Table.okB, Bool.and_eq_true, List.all_eq_true, decide_eq_true_eq] at h
  exact ⟨fun _ _ hs => h.1 _ (mem_of_lookup hs),
    fun _ _ _ _ hs hp => h.2 _ (mem_of_lookup hs) _ (mem_of_lookup hp)⟩

/-- `m` in table `T1` and `m'` in table `T2` make the same parenthesisation decisions -/
def relB (T1 T2 : Table) (m m' : Nat) : Bool :=
  T1.bin.all (fun p => decide (m ≤ p.2 ↔ m' ≤ T2.lbp p.1))

/-- two tables that order their operators the same way -/
def isoB (T1 T2 : Table) : Bool :=
  T1.bin.all (fun p => (T2.lbp? p.1).isSome) &&
  T1.pre.all (fun p => (T2.pre? p.1).isSome) &&
  T1.bin.all (fun p => relB T1 T2 p.2 (T2.lbp p.1) && relB T1 T2 (p.2 + 1) (T2.lbp p.1 + 1)) &&
  T1.pre.all (fun p => relB T1 T2 (p.2 + 1) ((T2.pre? p.1).getD 0 + 1)) &&
  relB T1 T2 (T1.parenBP + 1) (T2.parenBP + 1)

/-- order-isomorphic tables know the same operators and print every expression with the same
    parentheses -/
theorem render_iso {T1 T2 : Table} (h : isoB T1 T2 = true) (e : Expr) : WF T1 e →
    WF T2 e ∧ ∀ m m', relB T1 T2 m m' = true → render T1 m e = render T2 m' e := by
  simp only [isoB, Bool.and_eq_true, List.all_eq_true] at h
  obtain ⟨⟨⟨⟨sameBin, samePre⟩, hbin⟩, hpre⟩, hparen⟩ := h
  induction e with
  | name s => exact fun _ => ⟨trivial, fun _ _ _ => rfl⟩
  | int neg n => exact fun hw => ⟨hw, fun _ _ _ => rfl⟩
  | un op e ih =>
    intro ⟨hop, hw⟩
    obtain ⟨b1, hb1⟩ := Option.isSome_iff_exists.mp hop
    have hm := mem_of_lookup hb1
    refine ⟨⟨samePre _ hm, (ih hw).1⟩, fun m m' _ => ?_⟩
    simp only [render, hb1, Option.getD_some, (ih hw).2 _ _ (hpre _ hm)]
  | bin op l r ihl ihr =>
    intro ⟨hop, hwl, hwr⟩
    obtain ⟨bp1, hbp1⟩ := Option.isSome_iff_exists.mp hop
    have hm := mem_of_lookup hbp1
    refine ⟨⟨sameBin _ hm, (ihl hwl).1, (ihr hwr).1⟩, fun m m' hr => ?_⟩
    simp only [relB, List.all_eq_true, decide_eq_true_eq] at hr
    simp only [render, Table.lbp_eq hbp1, hr _ hm, (ihl hwl).2 _ _ (hbin _ hm).1,
      (ihr hwr).2 _ _ (hbin _ hm).2]
  | paren e ih => exact fun hw => ⟨(ih hw).1, fun m m' _ => by simp only [render, (ih hw).2 _ _ hparen]⟩

end Goat.Pratt
