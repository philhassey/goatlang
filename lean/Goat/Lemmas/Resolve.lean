import Goat.Model.Resolve
/-! Lemmas about the identifier-resolution model: the chain in closed form (`resolve_eq`), and which keys the
    table holds after an event (`mem_addKey`, `mem_enterFunc`, `mem_step`) and after a history (`mem_foldl_step`). -/
namespace Goat.Resolve
open Gen

theorem resolveWith_cons (s : ResolveStep) (order : List ResolveStep) (t : Tab) (c : Ctx) (x : String) :
    resolveWith (s :: order) t c x = (tryStep t c x s).getD (resolveWith order t c x) := by
  unfold resolveWith
  rw [firstSome]
  cases tryStep t c x s <;> rfl

private theorem getD_ite_some {α} {p : Prop} [Decidable p] (a d : α) :
    (if p then some a else none).getD d = if p then a else d := by
  split <;> rfl

/-- the if / else-if chain of compiler.go `case "(name)"`, in the generated order, written out -/
theorem resolve_eq (t : Tab) (c : Ctx) (x : String) :
    resolve t c x =
      if x = "$" then .globalGet .dollar
      else if c.inScope ∧ Key.ltype c.fn x ∈ t.keys then .globalGet (.ltype c.fn x)
      else if x ∈ c.locals then .localGet x
      else if Key.glob x ∈ t.keys then .globalGet (.glob x)
      else if Key.builtin x ∈ t.keys then .globalGet (.builtin x)
      else .globalGet (.glob x) := by
  simp only [resolve, resolveOrder, resolveWith_cons, tryStep, getD_ite_some]
  rfl

/-- **local_wins.** With the chain in the order of the source: an identifier that is bound in the enclosing scopes of
    the function resolves to that binding, whatever package-level names and builtins the table holds (and however
    they got there), unless the body being compiled declared a type of that name. -/
theorem local_wins (t : Tab) (c : Ctx) (x : String) (hx : x ≠ "$") (hl : x ∈ c.locals)
    (ht : Key.ltype c.fn x ∉ t.keys) : resolve t c x = .localGet x := by
  rw [resolve_eq, if_neg hx, if_neg (fun h => ht h.2), if_pos hl]

/-- a package-level name beats a builtin of the same name -/
theorem package_beats_builtin (t : Tab) (c : Ctx) (x : String) (hx : x ≠ "$") (hl : x ∉ c.locals)
    (ht : Key.ltype c.fn x ∉ t.keys) (hg : Key.glob x ∈ t.keys) : resolve t c x = .globalGet (.glob x) := by
  rw [resolve_eq, if_neg hx, if_neg (fun h => ht h.2), if_neg hl, if_pos hg]

/-- a name found nowhere is a forward reference to the package-level key -/
theorem forward_reference (t : Tab) (c : Ctx) (x : String) (hx : x ≠ "$") (hl : x ∉ c.locals)
    (ht : Key.ltype c.fn x ∉ t.keys) (hg : Key.glob x ∉ t.keys) (hb : Key.builtin x ∉ t.keys) :
    resolve t c x = .globalGet (.glob x) := by
  rw [resolve_eq, if_neg hx, if_neg (fun h => ht h.2), if_neg hl, if_neg hg, if_neg hb]

/-- `Index`: the key is there afterwards and nothing else is new. `declType` and the steps of `predeclare` are
    this event. -/
theorem mem_addKey (t : Tab) (k k' : Key) : k' ∈ (step t (.addKey k)).keys ↔ k' ∈ t.keys ∨ k' = k := by
  simp only [step]
  split
  · exact ⟨Or.inl, fun h => h.elim id (· ▸ ‹_›)⟩
  · exact List.mem_cons.trans or_comm

theorem addKey_compiled (t : Tab) (k : Key) : (step t (.addKey k)).compiled = t.compiled := by
  simp only [step]; split <;> rfl

theorem mem_foldl_addKey {α} (g : α → Key) (l : List α) (t : Tab) (k : Key) :
    k ∈ (l.foldl (fun t a => step t (.addKey (g a))) t).keys ↔ k ∈ t.keys ∨ ∃ a ∈ l, k = g a := by
  induction l generalizing t with
  | nil => simp
  | cons a l ih => simp only [List.foldl_cons, ih, mem_addKey, List.mem_cons, exists_eq_or_imp, or_assoc]

theorem declTypes_keys (tys : List String) (t : Tab) (f : String) (k : Key) :
    k ∈ (declTypes t f tys).keys ↔ k ∈ t.keys ∨ ∃ ty ∈ tys, k = .ltype f ty :=
  mem_foldl_addKey (Key.ltype f) tys t k

theorem declTypes_compiled (tys : List String) (t : Tab) (f : String) :
    (declTypes t f tys).compiled = t.compiled := by
  induction tys generalizing t with
  | nil => rfl
  | cons ty tys ih => exact (ih _).trans (addKey_compiled t _)

theorem mem_predeclare (names : List String) (t : Tab) (k : Key) :
    k ∈ (predeclare t names).keys ↔ k ∈ t.keys ∨ ∃ n ∈ names, k = .glob n :=
  mem_foldl_addKey Key.glob names t k

theorem mem_enterFunc (t : Tab) (f : String) (k : Key) :
    k ∈ (enterFunc t f).keys ↔ k ∈ t.keys ∧ (f ≠ "" → f ∈ t.compiled → ∀ ty, k ≠ .ltype f ty) := by
  unfold enterFunc
  split
  · simp [*]
  · dsimp only
    split
    · rw [List.mem_filter]
      cases k <;> simp [*]
    · simp [*]

theorem enterFunc_compiled (t : Tab) (f : String) (hf : f ≠ "") : (enterFunc t f).compiled = f :: t.compiled := by
  rw [enterFunc, if_neg hf]

/-- every type key belongs to a function that was compiled -/
def Inv (t : Tab) : Prop := ∀ f ty, Key.ltype f ty ∈ t.keys → f ∈ t.compiled

theorem step_inv (t : Tab) (hi : Inv t) (e : Ev) (he : e.ok) : Inv (step t e) := by
  intro g ty h
  cases e with
  | compile f =>
    rw [step, declTypes_compiled, enterFunc_compiled t f he]
    rcases (declTypes_keys ..).mp h with h | ⟨_, _, e⟩
    · exact List.mem_cons_of_mem _ (hi g ty ((mem_enterFunc ..).mp h).1)
    · cases e; exact List.mem_cons_self
  | addKey =>
    rw [addKey_compiled]
    exact hi g ty (((mem_addKey ..).mp h).resolve_right (he g ty).symm)

theorem run_inv (h : List Ev) (hok : ∀ e ∈ h, e.ok) : Inv (run h) :=
  List.foldlRecOn h step (fun _ _ hm => nomatch hm) (fun t ht e he => step_inv t ht e (hok e he))

theorem compile_ltype (t : Tab) (hi : Inv t) (f : String) (hf : f ≠ "") (tys : List String) (ty : String) :
    Key.ltype f ty ∈ (step t (.compile f tys)).keys ↔ ty ∈ tys := by
  rw [step, declTypes_keys, mem_enterFunc]
  constructor
  · rintro (h | ⟨_, hm, e⟩)
    · exact absurd rfl (h.2 hf (hi f ty h.1) ty)
    · cases e; exact hm
  · exact fun hm => Or.inr ⟨ty, hm, rfl⟩

theorem mem_step (t : Tab) (e : Ev) (k : Key) (hk : ∀ f ty, k ≠ .ltype f ty) :
    k ∈ (step t e).keys ↔ k ∈ t.keys ∨ e = .addKey k := by
  cases e with
  | compile f =>
    rw [step, declTypes_keys, mem_enterFunc]
    exact ⟨fun h => h.elim (fun h => Or.inl h.1) (fun ⟨ty, _, e⟩ => absurd e (hk f ty)),
      fun h => h.elim (fun h => Or.inl ⟨h, fun _ _ => hk f⟩) nofun⟩
  | addKey => rw [mem_addKey, Ev.addKey.injEq, eq_comm]

theorem mem_foldl_step (h : List Ev) (t : Tab) (k : Key) (hk : ∀ f ty, k ≠ .ltype f ty) :
    k ∈ (h.foldl step t).keys ↔ k ∈ t.keys ∨ .addKey k ∈ h := by
  induction h generalizing t with
  | nil => simp
  | cons e h ih => rw [List.foldl_cons, ih, mem_step t e k hk, List.mem_cons, or_assoc, @eq_comm _ e]

/-- **recompile_forgets.** Whatever was compiled before - any history of function, method, literal and init
    compilations (also of earlier bodies of f itself) and of package-level definitions - once the body of f has been
    compiled the table holds exactly the types that THIS body declares under f's name. -/
theorem recompile_forgets (h : List Ev) (hok : ∀ e ∈ h, e.ok) (f : String) (hf : f ≠ "") (tys : List String) (ty : String) :
    Key.ltype f ty ∈ (step (run h) (.compile f tys)).keys ↔ ty ∈ tys :=
  compile_ltype _ (run_inv h hok) f hf tys ty

/-- **local_wins_after_any_history.** `local_wins` and `recompile_forgets` together: in the body of a function f that is being compiled after any
    history, at a point where the body has declared the types tys so far, a bound identifier that is not one of them
    is the local. -/
theorem local_wins_after_any_history (h : List Ev) (hok : ∀ e ∈ h, e.ok) (f : String) (hf : f ≠ "")
    (tys : List String) (locals : List String) (x : String) (hx : x ≠ "$") (hl : x ∈ locals) (hn : x ∉ tys) :
    resolve (step (run h) (.compile f tys)) { fn := f, inScope := true, locals := locals } x = .localGet x :=
  local_wins _ _ x hx hl (fun hm => hn ((recompile_forgets h hok f hf tys x).mp hm))

/-- **resolve_history_independent.** Two histories that define the same package-level names and builtins give the same
    resolution of every identifier in the body of a function compiled after them. -/
theorem resolve_history_independent (h1 h2 : List Ev) (ok1 : ∀ e ∈ h1, e.ok) (ok2 : ∀ e ∈ h2, e.ok)
    (same : ∀ k, (∀ f ty, k ≠ .ltype f ty) → (k ∈ (run h1).keys ↔ k ∈ (run h2).keys))
    (f : String) (hf : f ≠ "") (tys : List String) (locals : List String) (x : String) :
    resolve (step (run h1) (.compile f tys)) { fn := f, inScope := true, locals := locals } x
      = resolve (step (run h2) (.compile f tys)) { fn := f, inScope := true, locals := locals } x := by
  have key : ∀ k, (∀ g ty, k ≠ .ltype g ty) →
      (k ∈ (step (run h1) (.compile f tys)).keys ↔ k ∈ (step (run h2) (.compile f tys)).keys) :=
    fun k hk => by rw [mem_step _ _ k hk, mem_step _ _ k hk, same k hk]
  simp only [resolve_eq, recompile_forgets h1 ok1 f hf, recompile_forgets h2 ok2 f hf,
    key (.glob x) (fun _ _ => nofun), key (.builtin x) (fun _ _ => nofun)]

/-- a package-level key, once in the table, stays there through every event -/
theorem glob_mem_foldl (h : List Ev) (t : Tab) (n : String) (hm : Key.glob n ∈ t.keys) :
    Key.glob n ∈ (h.foldl step t).keys :=
  (mem_foldl_step h t (.glob n) (fun _ _ => nofun)).mpr (Or.inl hm)

/-! non-vacuity: f first declares a type `acc`; the redefinition has a parameter `acc` -/
def hist : List Ev := [.addKey (.builtin "println"), .addKey (.glob "total"), .compile "main.f" ["acc"], .compile "main.g" ["st"]]
example : ∀ e ∈ hist, e.ok := by
  intro e he
  simp only [hist, List.mem_cons, List.mem_nil_iff, or_false] at he
  rcases he with rfl | rfl | rfl | rfl <;> simp [Ev.ok]
example : resolve (step (run hist) (.compile "main.f" [])) { fn := "main.f", inScope := true, locals := ["acc"] } "acc" = .localGet "acc" := by decide
example : Key.ltype "main.f" "acc" ∈ (run hist).keys := by decide
-- without enterFunc's forgetting the stale type would win
example : resolve (run hist) { fn := "main.f", inScope := true, locals := ["acc"] } "acc" = .globalGet (.ltype "main.f" "acc") := by decide

end Goat.Resolve
