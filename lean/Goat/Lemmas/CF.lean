import Goat.Spec.CF
/-!
# Control flow: placed code, placeholder rewriting, and blocks that run wherever they are placed

The lemmas compile correctness (Props/C06) is assembled from: what the enclosing loop's placeholder
rewriting `rw` does to placed code (`CodeAt`), and the composition of relocatable blocks (`Runs`, `Skips`).
-/
namespace Goat.CF
open Goat.Peephole

variable {σ : Type} {M : Sem σ} {L : Leaves}

theorem Star.trans {C x y z} (h1 : Star M L C x y) (h2 : Star M L C y z) : Star M L C x z := by
  induction h1 with
  | refl => exact h2
  | step s _ ih => exact Star.step s (ih h2)

theorem Star.one {C x y} (h : Step M L C x y) : Star M L C x y := Star.step h Star.refl

theorem Star.snoc {C x y z} (h : Star M L C x y) (s : Step M L C y z) : Star M L C x z := h.trans (.one s)

theorem CodeAt.head {C pc i F} (h : CodeAt C pc (i :: F)) : C[pc]? = some i := by
  obtain ⟨X, Y, rfl, rfl⟩ := h
  simp

theorem CodeAt.left {C pc F G} (h : CodeAt C pc (F ++ G)) : CodeAt C pc F := by
  obtain ⟨X, Y, rfl, rfl⟩ := h
  exact ⟨X, G ++ Y, by simp, rfl⟩

theorem CodeAt.right {C pc F G} (h : CodeAt C pc (F ++ G)) : CodeAt C (pc + F.length) G := by
  obtain ⟨X, Y, rfl, rfl⟩ := h
  exact ⟨X ++ F, Y, by simp, by simp⟩

theorem CodeAt.tail {C pc i F} (h : CodeAt C pc (i :: F)) : CodeAt C (pc+1) F :=
  CodeAt.right (F := [i]) h

/-- the default proof is for an instruction whose opcode is a literal -/
theorem noPH_of_op {i : Instr} (h : i.op ≠ "BREAK" ∧ i.op ≠ "CONTINUE" := by simp [jump]) : isPH i = false := by
  simp [isPH, h.1, h.2]

@[simp] theorem rw_length (db dc F) : (rw db dc F).length = F.length := by
  induction F with
  | nil => rfl
  | cons i is ih => simp [rw, ih]

theorem rwI_shift (db dc e rem i) : rwI db dc (rem + e) i = rwI (db + e) (dc + e) rem i := by
  simp only [rwI, Nat.add_assoc, Nat.add_comm e]

/-- a block followed by `Y` is rewritten with both targets `Y.length` further away -/
theorem rw_append (db dc X Y) :
    rw db dc (X ++ Y) = rw (db + Y.length) (dc + Y.length) X ++ rw db dc Y := by
  induction X with
  | nil => simp [rw]
  | cons i is ih => simp [rw, ih, rwI_shift]

@[simp] theorem rwB_length (db F) : (rwB db F).length = F.length := by
  induction F with
  | nil => rfl
  | cons i is ih => simp [rwB, ih]

theorem rwI_rwBI (db dc k rem i) : rwI db dc rem (rwBI k rem i) = rwI k dc rem i := by
  unfold rwI rwBI
  by_cases h1 : i.op = "BREAK"
  · simp [h1]
  · by_cases h2 : i.op = "CONTINUE"
    · simp [h2]
    · simp [h1, h2]

/-- a clause's BREAK rewriting followed by the enclosing loop's rewriting is one rewriting with
    the clause's break target and the loop's continue target -/
theorem rw_rwB (db dc k F) : rw db dc (rwB k F) = rw k dc F := by
  induction F with
  | nil => rfl
  | cons i is ih => simp [rw, rwB, ih, rwI_rwBI]

theorem rwI_noPH (db dc rem i) (h : isPH i = false) : rwI db dc rem i = i := by
  simp only [isPH, Bool.or_eq_false_iff, beq_eq_false_iff_ne, ne_eq] at h
  simp only [rwI, h.1, h.2, if_false]

theorem rw_noPH (db dc F) (h : ∀ i ∈ F, isPH i = false) : rw db dc F = F := by
  induction F with
  | nil => rfl
  | cons i is ih =>
    have hi := h i (by simp)
    have := ih (fun j hj => h j (by simp [hj]))
    simp only [rw, this, rwI_noPH _ _ _ _ hi]

theorem noPH_rwI (db dc rem i) : isPH (rwI db dc rem i) = false := by
  unfold rwI
  split
  · exact noPH_of_op
  · split
    · exact noPH_of_op
    · exact noPH_of_op ⟨‹_›, ‹_›⟩

theorem noPH_rw (db dc F) : ∀ i ∈ rw db dc F, isPH i = false := by
  induction F with
  | nil => simp [rw]
  | cons i is ih =>
    intro j hj
    simp only [rw, List.mem_cons] at hj
    rcases hj with rfl | hj
    · exact noPH_rwI _ _ _ _
    · exact ih j hj

theorem CodeAt.rw_left {C pc db dc F G} (h : CodeAt C pc (rw db dc (F ++ G))) :
    CodeAt C pc (rw (db + G.length) (dc + G.length) F) := by
  rw [rw_append] at h
  exact h.left

theorem CodeAt.rw_right {C pc db dc F G} (h : CodeAt C pc (rw db dc (F ++ G))) :
    CodeAt C (pc + F.length) (rw db dc G) := by
  rw [rw_append] at h
  have := h.right
  rwa [rw_length] at this

theorem CodeAt.rw_head {C pc db dc i F} (hi : isPH i = false) (h : CodeAt C pc (rw db dc (i :: F))) :
    C[pc]? = some i := by
  rw [rw, rwI_noPH _ _ _ _ hi] at h
  exact h.head

theorem CodeAt.noPH {C pc db dc F} (h : CodeAt C pc (rw db dc F)) (hF : ∀ i ∈ F, isPH i = false) : CodeAt C pc F :=
  rw_noPH _ _ _ hF ▸ h

theorem run_act (ok : LeavesOK M L) {C pc stk s n} (h : CodeAt C pc (L.act n)) :
    Star M L C (pc, stk, s) (pc + (L.act n).length, stk, M.act n s) := by
  by_cases he : L.act n = []
  · rw [he, ok.act_empty n he s]; exact Star.refl
  · exact Star.one (Step.act he h)

theorem run_test (ok : LeavesOK M L) {C pc db dc stk c i} (hi : isPH i = false)
    (hc : CodeAt C pc (rw db dc (L.cnd c ++ [i]))) (s : σ) :
    Star M L C (pc, stk, s) (pc + (L.cnd c).length, M.cval c s :: stk, M.ceff c s) ∧
      C[pc + (L.cnd c).length]? = some i :=
  ⟨.one (Step.cnd (ok.cnd_ne c) (hc.rw_left.noPH (ok.cnd_noPH c))), hc.rw_right.rw_head hi⟩

theorem tgt_of_ne {clen pc len db dc : Nat} {o : Out} (h : o ≠ .ret) : tgt clen pc len db dc o = pc + len + offs db dc o := by
  cases o <;> simp [tgt] at h ⊢

theorem tgt_shift (clen pc k len db dc o) : tgt clen (pc + k) len db dc o = tgt clen pc (k + len) db dc o := by
  cases o <;> simp only [tgt, Nat.add_assoc]

/-- code behind a block that is left abruptly: the targets are that much further away -/
theorem tgt_exit {clen pc len k db dc o} (ho : o ≠ .normal) :
    tgt clen pc len (db + k) (dc + k) o = tgt clen pc (len + k) db dc o := by
  cases o with
  | normal => exact absurd rfl ho
  | ret => rfl
  | brk | cont => simp only [tgt, offs, Nat.add_assoc, Nat.add_comm k]

/-- a full pass of a loop body (rewritten with continue distance 0) ends just past it -/
theorem tgt_pass {clen pc len db o} (hb : o ≠ .brk) (hr : o ≠ .ret) : tgt clen pc len db 0 o = pc + len := by
  cases o <;> first | rfl | contradiction

/-! `Runs F st o st'`: the block `F`, wherever it is placed and whatever the enclosing loop's targets,
takes `st` to `st'` and hands control on as the outcome `o` prescribes (`tgt`). `Skips F st k st'`:
control arrives `k` instructions past the end of `F` (a forward jump; `k = 0` is outcome `normal`).
Blocks compose by `Skips.seq`, `Skips.then`, `Skips.over` and `Runs.exit`. -/

variable (M L) in
/-- `e pc` instead of `pc` is where the machine starts (a loop re-entered at its test) -/
def RunsFrom (e : Nat → Nat) (F : List Instr) (st : σ) (o : Out) (st' : σ) : Prop :=
  ∀ (C : List Instr) (pc db dc : Nat) (stk : List Bool), CodeAt C pc (rw db dc F) →
    Star M L C (e pc, stk, st) (tgt C.length pc F.length db dc o, stk, st')

variable (M L) in
def Runs (F : List Instr) (st : σ) (o : Out) (st' : σ) : Prop := RunsFrom M L (fun pc => pc) F st o st'

variable (M L) in
def Skips (F : List Instr) (st : σ) (k : Nat) (st' : σ) : Prop :=
  ∀ (C : List Instr) (pc db dc : Nat) (stk : List Bool), CodeAt C pc (rw db dc F) →
    Star M L C (pc, stk, st) (pc + F.length + k, stk, st')

variable {A B : List Instr} {s s1 s2 : σ} {o : Out} {k : Nat}

theorem Runs.skips (h : Runs M L A s .normal s1) : Skips M L A s 0 s1 := h

theorem Skips.seq (h1 : Skips M L A s 0 s1) (h2 : Skips M L B s1 k s2) : Skips M L (A ++ B) s k s2 := by
  intro C pc db dc stk hc
  have := h2 C _ db dc stk hc.rw_right
  rw [Nat.add_assoc pc, ← List.length_append] at this
  exact (h1 C pc _ _ stk hc.rw_left).trans this

theorem Skips.then (h1 : Skips M L A s 0 s1) (h2 : Runs M L B s1 o s2) : Runs M L (A ++ B) s o s2 := by
  intro C pc db dc stk hc
  have := h2 C _ db dc stk hc.rw_right
  rw [tgt_shift, ← List.length_append] at this
  exact (h1 C pc _ _ stk hc.rw_left).trans this

/-- a jump past the following block -/
theorem Skips.over {j} (h : Skips M L A s j s1) (hj : j = B.length + k) : Skips M L (A ++ B) s k s1 := by
  intro C pc db dc stk hc
  have := h C pc _ _ stk hc.rw_left
  rwa [hj, ← Nat.add_assoc, Nat.add_assoc pc, ← List.length_append] at this

/-- an abrupt outcome passes over whatever follows -/
theorem Runs.exit (h : Runs M L A s o s1) (ho : o ≠ .normal) : Runs M L (A ++ B) s o s1 := by
  intro C pc db dc stk hc
  have := h C pc _ _ stk hc.rw_left
  rwa [tgt_exit ho, ← List.length_append] at this

theorem Skips.act (ok : LeavesOK M L) (n s) : Skips M L (L.act n) s 0 (M.act n s) :=
  fun _ _ _ _ _ hc => run_act ok (hc.noPH (ok.act_noPH n))

theorem Skips.jmp (k : Nat) (s : σ) : Skips M L [jump "JUMP" k] s k s :=
  fun C pc _ _ _ hc => .one (Step.jmp (hc.rw_head noPH_of_op) rfl
    (show ((pc + 1 + k : Nat) : Int) = pc + k + 1 by omega))

/-- a condition followed by JUMPFALSE: on `true` control falls through, on `false` it jumps -/
theorem Skips.cndT (ok : LeavesOK M L) {c s} (hv : M.cval c s = true) (k : Nat) :
    Skips M L (L.cnd c ++ [jump "JUMPFALSE" k]) s 0 (M.ceff c s) := by
  intro C pc db dc stk hc
  obtain ⟨h, hJ⟩ := run_test ok (stk := stk) noPH_of_op hc s
  rw [List.length_append, ← Nat.add_assoc]
  exact (hv ▸ h).snoc (Step.jfT hJ rfl)

theorem Skips.cndF (ok : LeavesOK M L) {c s} (hv : M.cval c s = false) (k : Nat) :
    Skips M L (L.cnd c ++ [jump "JUMPFALSE" k]) s k (M.ceff c s) := by
  intro C pc db dc stk hc
  obtain ⟨h, hJ⟩ := run_test ok (stk := stk) noPH_of_op hc s
  rw [List.length_append, ← Nat.add_assoc]
  exact (hv ▸ h).snoc (Step.jfF hJ rfl
    (show ((pc + (L.cnd c).length + 1 + k : Nat) : Int) = (pc + (L.cnd c).length : Nat) + k + 1 by omega))

end Goat.CF
