/-!
# The calling protocol that script functions (Model/Call) and natives (Model/Host) share

`Call.callReady` / `Call.call` and `Host.callReady` / `Host.call` are the same two wrappers around
different callees (`mkFunc nil fn`, `adapter n`). `ready` and `packed` are those wrappers over an
arbitrary callee; what they do to a stack `S ++ A` is proved here once.
-/
namespace Goat.Protocol

variable {V : Type}

/-- the one piece of index arithmetic: the frame base of a stack `S ++ A` with `A` the arguments -/
theorem length_append_sub {S A : List V} {n : Nat} (hA : A.length = n) :
    (S ++ A).length - n = S.length := by
  rw [List.length_append, hA, Nat.add_sub_cancel]

/-- `callReady` around a callee `f` declared with `args` parameters -/
def ready (f : List V → Option (List V)) (args xArgs xRets : Nat) (stack : List V) : Option (List V) :=
  if xArgs ≠ args then none
  else if stack.length < xArgs then none
  else match f stack with
    | none => none
    | some s' =>
      if s'.length < stack.length - xArgs + xRets then none
      else some (s'.take (stack.length - xArgs + xRets))

section
variable {f : List V → Option (List V)} {args : Nat} {S A : List V} (hA : A.length = args) (xRets : Nat)
include hA

theorem ready_enter : ready f args args xRets (S ++ A) =
    match f (S ++ A) with
    | none => none
    | some s' => if s'.length < S.length + xRets then none else some (s'.take (S.length + xRets)) := by
  rw [ready, if_neg (fun h => h rfl), if_neg (by simp [hA]), length_append_sub hA]

theorem ready_none (hf : f (S ++ A) = none) : ready f args args xRets (S ++ A) = none := by
  rw [ready_enter hA, hf]

theorem ready_some {R : List V} (hf : f (S ++ A) = some (S ++ R)) :
    ready f args args xRets (S ++ A) = if R.length < xRets then none else some (S ++ R.take xRets) := by
  rw [ready_enter hA, hf]
  simp only [List.length_append, Nat.add_lt_add_iff_left, List.take_length_add_append]

end

/-- `call` around a callee `k` (`callReady` at some `xRets`) declared with `args` parameters: for
    a variadic callee the surplus arguments are packed into one slice first -/
def packed (variadic : Bool) (mkSlice : List V → V) (args : Nat) (k : Nat → List V → Option (List V))
    (xArgs : Nat) (stack : List V) : Option (List V) :=
  if !variadic then k xArgs stack
  else if xArgs + 1 < args then none
  else if stack.length < xArgs then none
  else
    let nVar := xArgs + 1 - args
    let e := stack.length - nVar
    k (xArgs - nVar + 1) (stack.take e ++ [mkSlice (stack.drop e)])

theorem packed_spec (mkSlice : List V → V) {args : Nat} (k : Nat → List V → Option (List V))
    (S fixed extra : List V) (hf : fixed.length + 1 = args) :
    packed true mkSlice args k (fixed.length + extra.length) (S ++ fixed ++ extra) =
      k args (S ++ (fixed ++ [mkSlice extra])) := by
  have h2 : ¬ (S ++ fixed ++ extra).length < fixed.length + extra.length := by
    simp only [List.length_append]; omega
  rw [packed, if_neg (by decide), if_neg (by omega), if_neg h2]
  simp only [show fixed.length + extra.length + 1 - args = extra.length by omega]
  rw [length_append_sub rfl, List.take_left, List.drop_left, Nat.add_sub_cancel, hf, List.append_assoc]

end Goat.Protocol
