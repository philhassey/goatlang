import Goat.Model.Peephole
/-!
# The peephole pass: matching, one pass, and the fixpoint that two greedy passes reach

The lemmas about matching and about one pass hold for any rule table. The fixpoint proof uses the
table only through a handful of finite facts (`fact_len`, `fact_prod`, `fact_I`, `fact_G`), each closed by
kernel evaluation on the table regenerated from compiler.go. If a rule is added or changed so that a fused
opcode occurs in another window (other than INCDEC in LOCALGET;INCDEC;LOCALSET), `fact_prod` fails and the
theorem is no longer available.
-/
namespace Goat.Peephole

abbrev rules := Gen.peephole

variable {rs : List Gen.Rule} {r : Gen.Rule} {l : List Instr}

theorem fires_ops (h : fires r l = true) : opsOf (l.take r.lhs.length) = r.lhs := by
  simp only [fires, Bool.and_eq_true, beq_iff_eq] at h; exact h.1

theorem fires_guards (h : fires r l = true) : ∀ g ∈ r.guards, guardOk l g = true := by
  simp only [fires, Bool.and_eq_true, List.all_eq_true] at h; exact h.2

theorem fires_len (h : fires r l = true) : r.lhs.length ≤ l.length := by
  have := congrArg List.length (fires_ops h)
  simp only [opsOf, List.length_map, List.length_take] at this
  omega

/-- `w` begins with instructions of the opcodes `ops`, one after the other -/
def Starts : List String → List Instr → Prop
  | [], _ => True
  | a :: t, w => ∃ i X, w = i :: X ∧ i.op = a ∧ Starts t X

theorem starts_of_ops : ∀ {ops : List String} {w : List Instr}, opsOf (w.take ops.length) = ops → Starts ops w
  | [], _, _ => trivial
  | _ :: _, [], h => nomatch h
  | _ :: _, i :: X, h => by
    simp only [List.length_cons, List.take_succ_cons, opsOf, List.map_cons, List.cons.injEq] at h
    exact ⟨i, X, rfl, h.1, starts_of_ops h.2⟩

theorem build_op (r : Gen.Rule) (l) : (build r l).op = r.rhs := rfl

theorem build_pos_of_lt (h : r.pos < l.length) : (build r l).pos = l[r.pos].pos := by
  rw [build, List.getElem?_eq_getElem h]; rfl

theorem matchAt_some {f k} (h : matchAt rs l = some (f, k)) :
    ∃ r ∈ rs, fires r l = true ∧ f = build r l ∧ k = r.lhs.length := by
  simp only [matchAt, Option.map_eq_some_iff, Prod.mk.injEq] at h
  obtain ⟨r, hr, rfl, rfl⟩ := h
  exact ⟨r, List.mem_of_find?_eq_some hr, by simpa using List.find?_some hr, rfl, rfl⟩

theorem matchAt_none (h : matchAt rs l = none) : ∀ r ∈ rs, fires r l = false := by
  simp only [matchAt, Option.map_eq_none_iff] at h
  intro r hr
  simpa using List.find?_eq_none.mp h r hr

theorem doOpt_nil : doOpt rs [] = [] := by rw [doOpt]

theorem doOpt_fused {i rest f k} (h : matchAt rs (i :: rest) = some (f, k)) :
    doOpt rs (i :: rest) = f :: doOpt rs ((i :: rest).drop (max k 1)) := by
  rw [doOpt, h]

theorem doOpt_plain {i rest} (h : matchAt rs (i :: rest) = none) :
    doOpt rs (i :: rest) = i :: doOpt rs rest := by
  rw [doOpt, h]

theorem suffix_doOpt (l : List Instr) : ∀ t, t <:+ doOpt rs l → ∃ s, s <:+ l ∧ t = doOpt rs s := by
  fun_induction doOpt rs l with
  | case1 => exact fun t ht => ⟨[], List.suffix_refl _, by rw [doOpt_nil]; exact List.suffix_nil.mp ht⟩
  | case2 i rest f k hm ih =>
    intro t ht
    rcases List.suffix_cons_iff.mp ht with rfl | ht'
    · exact ⟨i :: rest, List.suffix_refl _, (doOpt_fused hm).symm⟩
    · obtain ⟨s, hs, rfl⟩ := ih t ht'
      exact ⟨s, hs.trans (List.drop_suffix _ _), rfl⟩
  | case3 i rest hm ih =>
    intro t ht
    rcases List.suffix_cons_iff.mp ht with rfl | ht'
    · exact ⟨i :: rest, List.suffix_refl _, (doOpt_plain hm).symm⟩
    · obtain ⟨s, hs, rfl⟩ := ih t ht'
      exact ⟨s, hs.trans (List.suffix_cons _ _), rfl⟩

theorem headCase (s : List Instr) :
    (s = [] ∧ doOpt rs s = []) ∨ (∃ r T, r ∈ rs ∧ fires r s = true ∧ doOpt rs s = build r s :: T) ∨
      ∃ j rest, s = j :: rest ∧ matchAt rs s = none ∧ doOpt rs s = j :: doOpt rs rest := by
  match s with
  | [] => exact .inl ⟨rfl, doOpt_nil⟩
  | j :: rest =>
    cases hm : matchAt rs (j :: rest) with
    | some fk =>
      obtain ⟨f, k⟩ := fk
      obtain ⟨r, hr, hf, rfl, -⟩ := matchAt_some hm
      exact .inr (.inl ⟨r, _, hr, hf, doOpt_fused hm⟩)
    | none => exact .inr (.inr ⟨j, rest, rfl, rfl, doOpt_plain hm⟩)

theorem mem_doOpt {x : Instr} (h : x ∈ doOpt rs l) :
    x ∈ l ∨ ∃ r ∈ rs, ∃ w, w <:+ l ∧ fires r w = true ∧ x = build r w := by
  obtain ⟨A, T, e⟩ := List.append_of_mem h
  obtain ⟨s, hs, e'⟩ := suffix_doOpt l (x :: T) ⟨A, e.symm⟩
  rcases headCase (rs := rs) s with ⟨-, h0⟩ | ⟨r, T', hr, hf, hd⟩ | ⟨j, rest, rfl, -, hp⟩
  · rw [h0] at e'; cases e'
  · rw [hd] at e'; cases e'
    exact .inr ⟨r, hr, s, hs, hf, rfl⟩
  · rw [hp] at e'; cases e'
    exact .inl (hs.subset (List.mem_cons_self ..))

theorem doOpt_of_stable : ∀ l : List Instr, (∀ t, t <:+ l → matchAt rs t = none) → doOpt rs l = l
  | [], _ => doOpt_nil
  | i :: rest, h => by
    rw [doOpt_plain (h _ (List.suffix_refl _)),
      doOpt_of_stable rest fun t ht => h t (ht.trans (List.suffix_cons _ _))]

theorem optimize_eq (l : List Instr) : optimize l = doOpt rules (doOpt rules l) := rfl

theorem optimize_induct {M : List Instr → Prop} (step : ∀ l, M l → M (doOpt rules l)) {l : List Instr} (h : M l) :
    M (optimize l) := by
  unfold optimize
  generalize List.range Gen.optimizePasses = passes
  induction passes generalizing l with
  | nil => exact h
  | cons _ ps ih => exact ih (step l h)

/-! ### facts about the regenerated rule table -/

/-- every window has 1 to 3 instructions -/
theorem fact_len : ∀ r ∈ rules, 1 ≤ r.lhs.length ∧ r.lhs.length ≤ 3 := by decide +kernel
/-- the only opcode that is both produced and consumed is INCDEC, inside LOCALGET;INCDEC;LOCALSET -/
theorem fact_prod : ∀ r ∈ rules, ∀ r' ∈ rules, r.rhs ∈ r'.lhs →
    r'.lhs = ["LOCALGET", "INCDEC", "LOCALSET"] ∧ r.rhs = "INCDEC" := by decide +kernel
/-- no window starts with an opcode that some rule produces -/
theorem fact_H : ∀ r ∈ rules, ∀ r' ∈ rules, r'.lhs.head? ≠ some r.rhs := fun r hr r' hr' e => by
  obtain ⟨h1, h2⟩ := fact_prod r hr r' hr' (List.mem_of_mem_head? e)
  rw [h1, h2] at e
  exact absurd e (by decide)
/-- a produced opcode can be the middle of a window only as INCDEC inside LOCALGET;INCDEC;LOCALSET -/
theorem fact_P1 : ∀ r ∈ rules, ∀ r' ∈ rules, r'.lhs[1]? = some r.rhs →
    r'.lhs = ["LOCALGET", "INCDEC", "LOCALSET"] ∧ r.rhs = "INCDEC" :=
  fun r hr r' hr' e => fact_prod r hr r' hr' (List.mem_of_getElem? e)
/-- no window ends (third position) with a produced opcode -/
theorem fact_P2 : ∀ r ∈ rules, ∀ r' ∈ rules, r'.lhs[2]? ≠ some r.rhs := fun r hr r' hr' e => by
  obtain ⟨h1, h2⟩ := fact_prod r hr r' hr' (List.mem_of_getElem? e)
  rw [h1, h2] at e
  exact absurd e (by decide)
/-- INCDEC is produced only from windows that start with PUSH -/
theorem fact_I : ∀ r ∈ rules, r.rhs = "INCDEC" → r.lhs.head? = some "PUSH" := by decide +kernel

def guardIdx : Gen.Guard → Nat
  | .eqf i _ j _ => max i j
  | .eqc i _ _ => i
  | .nec i _ _ => i
/-- guards look only inside the window -/
theorem fact_G : ∀ r ∈ rules, ∀ g ∈ r.guards, guardIdx g < r.lhs.length := by decide +kernel

private theorem getElem?_take_eq {l l' : List Instr} {n i : Nat} (h : l.take n = l'.take n) (hi : i < n) :
    l[i]? = l'[i]? := by
  rw [← List.getElem?_take_of_lt hi, h, List.getElem?_take_of_lt hi]

theorem guardOk_congr {l l' : List Instr} {n : Nat} (h : l.take n = l'.take n) {g : Gen.Guard} (hg : guardIdx g < n) :
    guardOk l g = guardOk l' g := by
  cases g with
  | eqf i f j g' =>
    rw [guardOk, guardOk, getElem?_take_eq h (Nat.lt_of_le_of_lt (Nat.le_max_left i j) hg),
      getElem?_take_eq h (Nat.lt_of_le_of_lt (Nat.le_max_right i j) hg)]
  | eqc i f c => rw [guardOk, guardOk, getElem?_take_eq h (show i < n from hg)]
  | nec i f c => rw [guardOk, guardOk, getElem?_take_eq h (show i < n from hg)]

theorem fires_congr (hr : r ∈ rules) {l l' : List Instr}
    (h : l.take r.lhs.length = l'.take r.lhs.length) : fires r l = fires r l' := by
  have hall : r.guards.all (guardOk l) = r.guards.all (guardOk l') := by
    rw [Bool.eq_iff_iff, List.all_eq_true, List.all_eq_true]
    exact forall_congr' fun g => forall_congr' fun hm => by rw [guardOk_congr h (fact_G r hr g hm)]
  rw [fires, fires, h, hall]

private theorem ops_get (h : fires r l = true) (p : Nat) (e : Instr)
    (hp : p < r.lhs.length) (he : l[p]? = some e) : r.lhs[p]? = some e.op := by
  rw [← fires_ops h, opsOf, List.getElem?_map, List.getElem?_take_of_lt hp, he]; rfl

/-- `A` is what the pass has copied in front of the rest `s` of its input. A window that fires on
    `A ++ doOpt rules s` though it did not fire on `A ++ s` holds an opcode that the pass fused from a window of `s`. -/
theorem fused_in_window {r' : Gen.Rule} (hr' : r' ∈ rules) : ∀ (s A : List Instr),
    (A = [] ∨ fires r' (A ++ s) = false) → fires r' (A ++ doOpt rules s) = true →
    ∃ r ∈ rules, r.rhs ∈ r'.lhs ∧ ∃ w, w <:+ s ∧ fires r w = true := by
  have hlen := (fact_len r' hr').1
  intro s
  induction s with
  | nil =>
    intro A h0 h1
    rw [doOpt_nil] at h1
    rcases h0 with rfl | h0
    · exact absurd (fires_len h1) (Nat.not_le_of_lt hlen)
    · rw [h0] at h1; cases h1
  | cons j rest ih =>
    intro A h0 h1
    by_cases hA : r'.lhs.length ≤ A.length
    · -- the window lies within the copied instructions: it saw the same instructions on the input
      rcases h0 with rfl | h0
      · exact absurd hA (Nat.not_le_of_lt hlen)
      · rw [fires_congr hr' (l' := A ++ doOpt rules (j :: rest)) (by
          rw [List.take_append_of_le_length hA, List.take_append_of_le_length hA]), h1] at h0
        cases h0
    · rcases headCase (rs := rules) (j :: rest) with ⟨h, -⟩ | ⟨r, T, hr, hf, hd⟩ | ⟨j', rest', e, hm, hp⟩
      · cases h
      · rw [hd] at h1
        exact ⟨r, hr, List.mem_of_getElem? (ops_get h1 A.length _ (Nat.lt_of_not_le hA)
          (by rw [List.getElem?_append_right (Nat.le_refl _), Nat.sub_self]; rfl)), _, List.suffix_refl _, hf⟩
      · cases e
        rw [hp, List.append_cons] at h1
        have h0' : fires r' (A ++ [j] ++ rest) = false := by
          rw [← List.append_cons]
          rcases h0 with rfl | h0
          · exact matchAt_none hm r' hr'
          · exact h0
        obtain ⟨r, hr, e, w, hw, hf⟩ := ih (A ++ [j]) (.inr h0') h1
        exact ⟨r, hr, e, w, hw.trans (List.suffix_cons _ _), hf⟩

/-- Key lemma: a rule can fire on the *output* of a pass only as the LOCALGET;INCDEC;LOCALSET
    window around an INCDEC that this very pass produced. -/
theorem key {r' : Gen.Rule} (hr' : r' ∈ rules) {s : List Instr} (hf' : fires r' (doOpt rules s) = true) :
    r'.lhs = ["LOCALGET", "INCDEC", "LOCALSET"] ∧ ∃ r ∈ rules, r.rhs = "INCDEC" ∧ ∃ w, w <:+ s ∧ fires r w = true := by
  obtain ⟨r, hr, e, w, hw, hf⟩ := fused_in_window hr' s [] (.inl rfl) hf'
  exact ⟨(fact_prod r hr r' hr' e).1, r, hr, (fact_prod r hr r' hr' e).2, w, hw, hf⟩

/-- Two greedy passes reach a fixpoint: no rule fires at any position of the result. -/
theorem stable2 (l : List Instr) : ∀ t, t <:+ doOpt rules (doOpt rules l) → matchAt rules t = none := by
  intro t ht
  cases hmt : matchAt rules t with
  | none => rfl
  | some fk =>
    exfalso
    obtain ⟨f, k⟩ := fk
    obtain ⟨r', hr', hf', -, -⟩ := matchAt_some hmt
    obtain ⟨s1, hs1, rfl⟩ := suffix_doOpt (doOpt rules l) t ht
    -- the INCDEC in the window was fused by the second pass, from a window of the first pass's output
    obtain ⟨-, r, hr, hid, w, hw, hfr⟩ := key hr' hf'
    obtain ⟨s', -, rfl⟩ := suffix_doOpt l w (hw.trans hs1)
    have := fact_I r hr hid
    rw [(key hr hfr).1] at this
    exact absurd this (by decide)

theorem opt_stable (l : List Instr) :
    doOpt rules (doOpt rules (doOpt rules l)) = doOpt rules (doOpt rules l) :=
  doOpt_of_stable _ (stable2 l)

end Goat.Peephole
