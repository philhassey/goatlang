import Goat.Model.OMap
/-! Helper lemmas for the ordered-map model (association lists, the invariant). -/
namespace Goat.OMap

variable {K V : Type} [DecidableEq K]

theorem aget_aput (k k' : K) (v : V) (d : List (K × V)) :
    aget k' (aput k v d) = if k' = k then some v else aget k' d := by
  fun_induction aput k v d with
  | case1 => simp [aget, eq_comm]
  | case2 =>
    by_cases h : k' = k
    · simp [aget, h]
    · simp [aget, h, Ne.symm h]
  | case3 k2 v2 t h ih =>
    by_cases h' : k' = k
    · subst h'; simp [aget, h, ih]
    · simp [aget, h', ih]

theorem mem_akeys_iff (k : K) (d : List (K × V)) : k ∈ akeys d ↔ (aget k d).isSome := by
  fun_induction aget k d with
  | case1 | case2 => simp [akeys]
  | case3 k' v' t h ih => exact (List.mem_cons.trans (or_iff_right (Ne.symm h))).trans ih

theorem akeys_aput (k : K) (v : V) (d : List (K × V)) :
    akeys (aput k v d) = if (aget k d).isSome then akeys d else akeys d ++ [k] := by
  fun_induction aput k v d with
  | case1 => rfl
  | case2 => simp [aget, akeys]
  | case3 k' v' t h ih =>
    rw [aget, if_neg h]
    show k' :: akeys (aput k v t) = _
    rw [ih]
    split <;> rfl

theorem akeys_adel (k : K) (d : List (K × V)) : akeys (adel k d) = (akeys d).erase k := by
  fun_induction adel k d with
  | case1 => rfl
  | case2 => simp [akeys]
  | case3 k' v' t h ih =>
    show k' :: akeys (adel k t) = (k' :: akeys t).erase k
    rw [ih, List.erase_cons_tail (by simpa using h)]

/-- `adel` removes the first entry for `k`, which is the only one when the keys are duplicate-free -/
theorem aget_adel (k k' : K) {d : List (K × V)} (hn : (akeys d).Nodup) :
    aget k' (adel k d) = if k' = k then none else aget k' d := by
  fun_induction adel k d with
  | case1 => simp [aget]
  | case2 v2 t =>
    by_cases h : k' = k
    · subst h
      simpa [Option.isSome_eq_false_iff] using
        mt (mem_akeys_iff k' t).mpr (List.nodup_cons.mp hn).1
    · simp [aget, h, Ne.symm h]
  | case3 k2 v2 t h2 ih =>
    have ih := ih (List.nodup_cons.mp hn).2
    by_cases h : k' = k
    · subst h; simp [aget, h2, ih]
    · simp [aget, h, ih]

omit [DecidableEq K] in
theorem length_akeys (d : List (K × V)) : (akeys d).length = d.length := List.length_map _

theorem length_aput (k : K) (v : V) (d : List (K × V)) :
    (aput k v d).length = if (aget k d).isSome then d.length else d.length + 1 := by
  rw [← length_akeys, akeys_aput]
  split <;> simp [akeys]

theorem length_adel (k : K) (d : List (K × V)) :
    (adel k d).length = if (aget k d).isSome then d.length - 1 else d.length := by
  rw [← length_akeys, akeys_adel, List.length_erase, ← length_akeys d]
  simp only [mem_akeys_iff]

theorem nodup_concat {α : Type} {l : List α} {a : α} : (l ++ [a]).Nodup ↔ l.Nodup ∧ a ∉ l :=
  (List.perm_append_singleton a l).nodup_iff.trans (List.nodup_cons.trans and_comm)

theorem nodup_akeys_aput (k : K) (v : V) {d : List (K × V)} (h : (akeys d).Nodup) :
    (akeys (aput k v d)).Nodup := by
  rw [akeys_aput]
  split
  · exact h
  · exact nodup_concat.mpr ⟨h, fun hm => ‹¬_› ((mem_akeys_iff k d).mp hm)⟩

theorem set_data (m : M K V) (k : K) (v : V) : (m.set k v).data = aput k v m.data :=
  (apply_ite M.data ..).trans (ite_self _)

theorem delete_data (m : M K V) (k : K) (perm : List K) : (m.delete k perm).data = adel k m.data :=
  (apply_ite M.data ..).trans (ite_self _)

/-- live keys are duplicate-free, the key list is duplicate-free, and lists every live key -/
structure Inv (m : M K V) : Prop where
  live_nodup : m.live.Nodup
  keys_nodup : m.keys.Nodup
  live_sub : ∀ k ∈ m.live, k ∈ m.keys

theorem inv_set (m : M K V) (k : K) (v : V) (h : Inv m) : Inv (m.set k v) := by
  have hnd : (akeys (aput k v m.data)).Nodup := nodup_akeys_aput k v h.live_nodup
  have e : akeys (aput k v m.data) = if (m.get k).isSome then m.live else m.live ++ [k] :=
    akeys_aput k v m.data
  unfold M.set
  split
  next hk =>
    rw [if_pos hk] at e
    exact ⟨hnd, h.keys_nodup, fun x hx => h.live_sub x (e ▸ hx)⟩
  next hk =>
    rw [if_neg hk] at e
    have hknl : k ∉ m.live := fun hm => hk ((mem_akeys_iff k m.data).mp hm)
    -- without a stale entry the key list is no longer than the live keys it covers, so `k` is not
    -- in it either and erasing `k` changes nothing: both shapes of the key list are `keys.erase k`
    have hks : (if m.keys.length > m.data.length then m.keys.erase k else m.keys) = m.keys.erase k := by
      split
      · rfl
      next hgt =>
        refine (List.erase_of_not_mem fun hm => hgt ?_).symm
        have := (List.nodup_cons.mpr ⟨hknl, h.live_nodup⟩).length_le_of_subset
          fun x hx => (List.mem_cons.mp hx).elim (· ▸ hm) (h.live_sub x)
        rwa [List.length_cons, M.live, length_akeys] at this
    rw [hks]
    refine ⟨hnd, nodup_concat.mpr ⟨h.keys_nodup.erase k, h.keys_nodup.not_mem_erase⟩,
      fun x (hx : x ∈ akeys (aput k v m.data)) =>
        List.mem_append.mpr ((List.mem_append.mp (e ▸ hx)).imp_left fun hx => ?_)⟩
    exact (List.mem_erase_of_ne (ne_of_mem_of_not_mem hx hknl)).mpr (h.live_sub x hx)

theorem inv_delete (m : M K V) (k : K) (perm : List K) (h : Inv m)
    (hp : perm.Perm (akeys (adel k m.data))) : Inv (m.delete k perm) := by
  have e : akeys (adel k m.data) = m.live.erase k := akeys_adel k m.data
  have hnd : (akeys (adel k m.data)).Nodup := e ▸ h.live_nodup.erase k
  unfold M.delete
  dsimp only
  split
  · exact ⟨hnd, h.keys_nodup, fun x (hx : x ∈ akeys (adel k m.data)) =>
      h.live_sub x (List.mem_of_mem_erase (e ▸ hx))⟩
  · exact ⟨hnd, hp.nodup_iff.mpr hnd, fun x hx => hp.mem_iff.mpr hx⟩

end Goat.OMap
